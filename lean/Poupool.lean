-- Root of the `Poupool` library.  Property modules are built individually by ./check
-- (lake build Poupool.Properties.Cxx); this root imports nothing.
