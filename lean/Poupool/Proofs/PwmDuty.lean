/-
Helper lemmas for C20: P-controller sign / bounds / monotonicity, the minimum-run-time rounding, and the pulse
bookkeeping of the PWM model (ghost: instant at which the running pulse started).
-/
import Poupool.Proofs.PwmCap

namespace Poupool.Pwm

theorem constrain_bounds (x lo hi : Rat) (h : lo ≤ hi) : lo ≤ constrain x lo hi ∧ constrain x lo hi ≤ hi := by
  unfold constrain; grind

theorem constrain_mono {x y lo hi : Rat} (h : x ≤ y) : constrain x lo hi ≤ constrain y lo hi := by
  unfold constrain; grind

theorem constrain_low {x lo hi : Rat} (h : lo ≤ hi) (hx : x ≤ lo) : constrain x lo hi = lo := by
  unfold constrain; grind

theorem constrain_le_max (x hi : Rat) (y : Rat) (hy : 0 ≤ y) (hxy : x ≤ y) : constrain x 0 hi ≤ y := by
  unfold constrain; grind

theorem feedback_le {en : Bool} {x y : Rat} (h : x ≤ y) : feedback en x ≤ feedback en y := by
  cases en
  · exact Rat.le_refl
  · exact h

theorem compute_le (c : Cfg) {p s sp₁ x₁ sp₂ x₂ : Rat} (h : p * s * (sp₁ - x₁) ≤ p * s * (sp₂ - x₂)) :
    compute c sp₁ x₁ p s ≤ compute c sp₂ x₂ p s := constrain_mono h

theorem compute_low (c : Cfg) {p s sp x : Rat} (hc : c.pcLo ≤ c.pcHi) (h : p * s * (sp - x) ≤ c.pcLo) :
    compute c sp x p s = c.pcLo := constrain_low hc h

theorem dutyOn_zero {P m : Rat} (hm : m ≤ P) : dutyOn 0 P m = 0 := by
  unfold dutyOn; simp only [Rat.zero_mul]; grind

theorem onOf_zero {s : PwmState} (hv : s.value = 0) (hm : s.minRuntime ≤ s.period) : onOf s = 0 := by
  unfold onOf
  rw [hv]
  exact dutyOn_zero hm

theorem dutyOn_range {v P m : Rat} (hv0 : 0 ≤ v) (hv1 : v ≤ 1) (hm0 : 0 ≤ m) (hm : m ≤ P) :
    0 ≤ dutyOn v P m ∧ dutyOn v P m ≤ P ∧ (dutyOn v P m = 0 ∨ m ≤ dutyOn v P m) := by
  have hP : 0 ≤ P := by grind
  have h0 : 0 ≤ v * P := Rat.mul_nonneg hv0 hP
  have h1 : v * P ≤ 1 * P := by
    have := Rat.mul_le_mul_of_nonneg_left hv1 hP
    grind
  unfold dutyOn; grind

theorem secs_mono {a b : Int} (h : a ≤ b) : secs a ≤ secs b := by
  have := Rat.intCast_le_intCast.mpr h
  unfold secs; grind

/-- ghost: the cap ghost plus the instant at which the running pulse started and a flag recording whether some pulse
that was ended by a tick (not by a cancel) while the security timer had NOT elapsed was shorter than `min_runtime` or
shorter than the on-time `dutyOn` of the duty in force at that tick. -/
structure H where
  g : G
  onSince : Int
  short : Bool

/-- the security timer as consulted by the on-branch of the tick executed at the current instant -/
def capCut (g : G) : Bool := (g.s.sec.update g.clock 1).elapsed

def stepH (c : Cfg) (h : H) (op : Op) : H :=
  let g' := stepG c h.g op
  match op with
  | .tick =>
    { g := g'
      onSince := if h.g.s.pumpOn = false ∧ g'.s.pumpOn = true then h.g.clock else h.onSince
      short := h.short ||
        (h.g.s.pumpOn && !g'.s.pumpOn && !capCut h.g &&
          (decide (secs h.g.clock - secs h.onSince < h.g.s.minRuntime) ||
           decide (secs h.g.clock - secs h.onSince < onOf h.g.s))) }
  | _ => { h with g := g' }

def runH (c : Cfg) (h : H) (ops : List Op) : H := ops.foldl (stepH c) h

def H.init (c : Cfg) (period minRt : Rat) (secDur : Int) (start : Int) : H :=
  { g := G.init c period minRt secDur start, onSince := start, short := false }

/-- time does not run backwards (the only assumption for the minimum-pulse theorem) -/
def monoOp : Op → Prop
  | .wait d => 0 ≤ d
  | _ => True

def Mono (ops : List Op) : Prop := ∀ op ∈ ops, monoOp op

instance (op : Op) : Decidable (monoOp op) := by cases op <;> unfold monoOp <;> infer_instance
instance (ops : List Op) : Decidable (Mono ops) := by unfold Mono; infer_instance

/-- invariant: the phase accumulator never exceeds the real age of the running pulse -/
structure PInv (h : H) : Prop where
  hstate : h.g.s.pumpOn = h.g.s.state
  hshort : h.short = false
  hord : h.g.s.pumpOn = true → h.onSince ≤ h.g.lastTick ∧ h.g.lastTick ≤ h.g.clock
  hlast : h.g.s.pumpOn = true → h.g.s.last = some (secs h.g.lastTick)
  hdur : h.g.s.pumpOn = true → h.g.s.duration ≤ secs h.g.lastTick - secs h.onSince

theorem pinv_tick (c : Cfg) {h : H} (hi : PInv h) : PInv (stepH c h .tick) := by
  obtain ⟨hstate, hshort, hord, hlast, hdur⟩ := hi
  simp only [stepH, stepG]
  cases hl : h.g.s.last with
  | none =>
    have hp : h.g.s.pumpOn = false := Bool.eq_false_iff.mpr fun hq => nomatch hl.symm.trans (hlast hq)
    simp only [tick_of_none c _ hl, dailyReset_eq]
    refine ⟨hstate, ?_, ?_, ?_, ?_⟩ <;> simp [hp, hshort]
  | some l =>
    have hle : h.g.s.pumpOn = true → durAt h.g.clock l h.g.s ≤ secs h.g.clock - secs h.onSince := by
      intro hs
      have hd := hdur hs
      have hll : l = secs h.g.lastTick := Option.some.inj (hl.symm.trans (hlast hs))
      have m1 := secs_mono (hord hs).1
      have m2 := secs_mono (hord hs).2
      unfold durAt
      apply constrain_le_max <;> grind
    rcases block_cases h.g.clock l h.g.s with ⟨hs, hc, e⟩ | ⟨hs, _, _, e⟩ | ⟨hs, _, _, e⟩ | ⟨hs, _, e⟩ <;>
      simp only [tick_of_some c _ hl, dailyReset_eq, e] <;> rw [← hstate] at hs
    · -- a pulse ends: cut by the cap, or `Done`: the accumulator has reached both thresholds
      have := hle hs
      refine ⟨rfl, ?_, ?_, ?_, ?_⟩ <;> simp [hs, hshort]
      rcases hc with ⟨d1, d2, _⟩ | hc
      · intro _
        constructor <;> grind
      · intro hcc
        rw [capCut, hc] at hcc
        cases hcc
    · have := hord hs
      refine ⟨hstate, ?_, ?_, ?_, ?_⟩ <;> simp [hs, hshort]
      · omega
      · exact hle hs
    · refine ⟨rfl, ?_, ?_, ?_, ?_⟩ <;> simp [hs, hshort]
      grind
    · refine ⟨hstate, ?_, ?_, ?_, ?_⟩ <;> simp [hs, hshort]

theorem pinv_step (c : Cfg) {h : H} {op : Op} (hi : PInv h) (hm : monoOp op) : PInv (stepH c h op) := by
  cases op with
  | tick => exact pinv_tick c hi
  | wait d =>
    have : 0 ≤ d := hm
    refine { hi with hord := fun hp => ?_ }
    have := hi.hord hp
    simp only [stepH, stepG]
    omega
  | cancel => refine ⟨rfl, hi.hshort, ?_, ?_, ?_⟩ <;> simp [stepH, stepG, cancel]
  | setValue v | setPeriod p => exact { hi with }

theorem pinv_run (c : Cfg) {ops : List Op} {h : H} (hi : PInv h) (hm : Mono ops) : PInv (runH c h ops) :=
  List.foldlRecOn ops (stepH c) hi fun _ ha op hop => pinv_step c ha (hm op hop)

theorem pinv_init (c : Cfg) (period minRt : Rat) (secDur start : Int) : PInv (H.init c period minRt secDur start) := by
  refine ⟨rfl, rfl, ?_, ?_, ?_⟩ <;> simp [H.init, G.init, PwmState.init]

def constOp : Op → Prop
  | .setValue _ => False
  | .setPeriod _ => False
  | _ => True

def Const (ops : List Op) : Prop := ∀ op ∈ ops, constOp op

instance (op : Op) : Decidable (constOp op) := by cases op <;> unfold constOp <;> infer_instance
instance (ops : List Op) : Decidable (Const ops) := by unfold Const; infer_instance

def ZInv (s : PwmState) : Prop := onOf s = 0 ∧ s.state = false ∧ s.pumpOn = false

theorem zinv_step (c : Cfg) {g : G} {op : Op} (h : ZInv g.s) (hc : constOp op) : ZInv (stepG c g op).s := by
  cases op with
  | wait d => exact h
  | tick =>
    obtain ⟨t1, t2⟩ := tick_stays_off c g.clock h.1 h.2.1
    exact ⟨(onOf_tick c g.clock g.s).trans h.1, t1, t2.trans h.2.2⟩
  | cancel => exact ⟨h.1, rfl, rfl⟩
  | setValue v => exact absurd hc (by simp [constOp])
  | setPeriod p => exact absurd hc (by simp [constOp])

theorem zinv_run (c : Cfg) {ops : List Op} {g : G} (h : ZInv g.s) (hc : Const ops) : ZInv (runG c g ops).s :=
  List.foldlRecOn (motive := fun g => ZInv g.s) ops (stepG c) h fun _ ha op hop => zinv_step c ha (hc op hop)

end Poupool.Pwm
