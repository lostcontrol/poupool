import Poupool.Proofs.Outcomes
/-!
  Running only the messages that can move a state.

  `closed` runs `step` for every certified state and every message of the alphabet.  In a given leaf most plain messages
  are idle: a trigger without a row there, a method whose program has no effect on the modelled state (`Stmt.quiet`), a
  message without a program.  An idle message that is not pending has one outcome, `applyHavoc D s`, whatever the
  message (`step_idle`); a delayed call that is not the armed one has the outcome `s` (`step_unarmed`).  `allPlain` and
  `bucketClosed` run the other messages and look at those two outcomes once.

  What depends on the leaf alone (the idle messages, the rows and `total` entries of a trigger) is computed from the leaf
  as a numeral (`withLit`, `stepAt`), so that the kernel computes it once for the leaf and not once for every state.
-/
namespace Poupool

/-! ## What a program writes; programs without effect on the state -/

def Cond.quiet : Cond → Bool
  | .ask _ _ => false
  | .not c => c.quiet
  | .and a b => a.quiet && b.quiet
  | .or a b => a.quiet && b.quiet
  | _ => true

/-- every outcome of `p` leaves the state as it is, and there is one (a setting has a value) -/
def Stmt.quiet : Stmt → Bool
  | .skip | .ret | .stopRepeat | .emit _ => true
  | .seq a b => a.quiet && b.quiet
  | .choose a b => a.quiet && b.quiet
  | .ite c t e => c.quiet && t.quiet && e.quiet
  | .forSetting _ vals b => !vals.isEmpty && b.quiet
  | .scope b => b.quiet
  | _ => false

theorem evalCond_frame (l : List Int) (c : Cond) {s : St} {x : Bool × St} (hx : x ∈ evalCond l c s) :
    x.2.leaf = s.leaf ∧ (c.quiet = true → x.2 = s) := by
  induction c generalizing s x with
  | ask t f =>
      simp only [evalCond, List.mem_cons, List.not_mem_nil, or_false] at hx
      rcases hx with rfl | rfl <;> exact ⟨rfl, nofun⟩
  | cmp op a b =>
      simp only [evalCond] at hx
      split at hx
      all_goals
        simp only [List.mem_cons, List.not_mem_nil, or_false] at hx
        rcases hx with rfl | rfl <;> exact ⟨rfl, fun _ => rfl⟩
  | not c ih =>
      obtain ⟨y, hy, rfl⟩ := List.mem_map.mp hx
      exact ih (x := y) hy
  | and a b iha ihb =>
      obtain ⟨⟨v, t⟩, hy, hx⟩ := List.mem_flatMap.mp hx
      obtain ⟨hl, hq⟩ := iha hy
      simp only [Cond.quiet, Bool.and_eq_true]
      cases v
      · rw [List.mem_singleton.mp hx]
        exact ⟨hl, fun h => hq h.1⟩
      · obtain ⟨hl', hq'⟩ := ihb hx
        exact ⟨hl'.trans hl, fun h => (hq' h.2).trans (hq h.1)⟩
  | or a b iha ihb =>
      obtain ⟨⟨v, t⟩, hy, hx⟩ := List.mem_flatMap.mp hx
      obtain ⟨hl, hq⟩ := iha hy
      simp only [Cond.quiet, Bool.and_eq_true]
      cases v
      · obtain ⟨hl', hq'⟩ := ihb hx
        exact ⟨hl'.trans hl, fun h => (hq' h.2).trans (hq h.1)⟩
      · rw [List.mem_singleton.mp hx]
        exact ⟨hl, fun h => hq h.1⟩
  | _ =>
      simp only [evalCond, List.mem_cons, List.not_mem_nil, or_false] at hx
      rcases hx with rfl | rfl <;> exact ⟨rfl, fun _ => rfl⟩

theorem exec_frame (p : Stmt) {l : List Int} {s : St} {x : Flow × St} (hx : x ∈ exec p l s) :
    x.2.leaf = s.leaf ∧ (p.quiet = true → x.2 = s) := by
  induction p generalizing l s x with
  | seq a b iha ihb =>
      obtain ⟨⟨g, t⟩, hy, hx⟩ := List.mem_flatMap.mp hx
      obtain ⟨hl, hq⟩ := iha (mem_dedupFS.mp hy)
      simp only [Stmt.quiet, Bool.and_eq_true]
      cases g
      · obtain ⟨hl', hq'⟩ := ihb hx
        exact ⟨hl'.trans hl, fun h => (hq' h.2).trans (hq h.1)⟩
      all_goals
        rw [List.mem_singleton.mp hx]
        exact ⟨hl, fun h => hq h.1⟩
  | ite c t e iht ihe =>
      obtain ⟨⟨v, u⟩, hy, hx⟩ := List.mem_flatMap.mp hx
      obtain ⟨hl, hq⟩ := evalCond_frame l c hy
      simp only [Stmt.quiet, Bool.and_eq_true]
      cases v <;> simp only [Bool.false_eq_true, if_false, if_true] at hx
      · obtain ⟨hl', hq'⟩ := ihe hx
        exact ⟨hl'.trans hl, fun h => (hq' h.2).trans (hq h.1.1)⟩
      · obtain ⟨hl', hq'⟩ := iht hx
        exact ⟨hl'.trans hl, fun h => (hq' h.1.2).trans (hq h.1.1)⟩
  | choose a b iha ihb =>
      simp only [Stmt.quiet, Bool.and_eq_true]
      rcases List.mem_append.mp hx with hx | hx
      · exact (iha hx).imp_right fun hq h => hq h.1
      · exact (ihb hx).imp_right fun hq h => hq h.2
  | forSetting i vals body ih =>
      obtain ⟨v, _, hx⟩ := List.mem_flatMap.mp hx
      simp only [Stmt.quiet, Bool.and_eq_true]
      exact (ih hx).imp_right fun hq h => hq h.2
  | scope body ih =>
      obtain ⟨⟨g, t⟩, hy, rfl⟩ := List.mem_map.mp hx
      have := ih hy
      cases g <;> exact this
  | doRepeat body poll ih =>
      obtain ⟨⟨g, t⟩, hy, rfl⟩ := List.mem_map.mp hx
      have := (ih hy).1
      cases g <;> exact ⟨this, nofun⟩
  | set v e =>
      simp only [exec] at hx
      split at hx
      all_goals
        rw [List.mem_singleton.mp hx]
        exact ⟨rfl, nofun⟩
  | skip | ret | stopRepeat | emit =>
      rw [List.mem_singleton.mp hx]
      exact ⟨rfl, fun _ => rfl⟩
  | _ =>
      rw [List.mem_singleton.mp hx]
      exact ⟨rfl, nofun⟩

/-! ## Idle messages -/

/-- plain message `m` leaves a state of leaf `l` as it is, up to `pend` and the havoc -/
def idle (D : ActorDesc) (l : LeafId) (m : MsgId) : Bool :=
  if D.triggers.contains m then (D.rows.getD l []).all (·.trig != m)
  else match D.methods.find? (·.1 == m) with
    | some (_, p) => p.quiet
    | none => true

def idleAt (D : ActorDesc) (l : LeafId) : List MsgId := D.plainMsgs.filter (idle D l)

def liveAt (D : ActorDesc) (l : LeafId) : List MsgId := D.plainMsgs.filter (!idle D l ·)

theorem call_idle {D : ActorDesc} {m : MsgId} {s s' : St} (h : idle D s.leaf m = true) (hs' : s' ∈ call D m s) :
    s' = s := by
  unfold idle at h
  unfold call at hs'
  by_cases ht : D.triggers.contains m = true
  · rw [if_pos ht] at h hs'
    have hr : (D.rows.getD s.leaf []).filter (fun r => r.trig == m) = [] :=
      List.filter_eq_nil_iff.mpr fun r hr => by simpa using List.all_eq_true.mp h r hr
    simp only [fire, hr, List.flatMap_nil, List.append_nil] at hs'
    split at hs'
    · cases hs'
    · exact List.mem_singleton.mp hs'
  · rw [if_neg ht] at h hs'
    split at h
    · rename_i p hf
      simp only [hf, List.mem_map] at hs'
      obtain ⟨x, hx, rfl⟩ := hs'
      exact (exec_frame p hx).2 h
    · rename_i hf
      simpa only [hf, List.mem_singleton] using hs'

theorem removeMsg_not_mem {m : MsgId} {l : List MsgId} (h : m ∉ l) : removeMsg m l = l :=
  List.filter_eq_self.mpr fun a ha => by
    have : a ≠ m := fun e => h (e ▸ ha)
    simpa using this

theorem step_idle {D : ActorDesc} {s s' : St} {m : MsgId} (hi : idle D s.leaf m = true) (hp : m ∉ s.pend)
    (hs : s' ∈ step D s (.plain m)) : s' = applyHavoc D s := by
  simp only [step, removeMsg_not_mem hp, List.mem_map] at hs
  obtain ⟨x, hx, rfl⟩ := hs
  rw [call_idle hi hx]

theorem step_unarmed {D : ActorDesc} {s s' : St} {m : MsgId} (ha : s.armed ≠ some m)
    (hs : s' ∈ step D s (.delayed m)) : s' = s := by
  rw [step, if_neg (by simpa using ha)] at hs
  exact List.mem_singleton.mp hs

/-! ## `step` with the leaf given apart -/

/-- `fire`, looking up the rows and `total` at `l` instead of `s.leaf` -/
def fireAt (D : ActorDesc) (l : LeafId) (t : MsgId) (s : St) : List St :=
  let rs := (D.rows.getD l []).filter fun r => r.trig == t
  let ignored := if D.total.contains (l, t) then [] else [s]
  ignored ++ rs.flatMap fun r =>
    (runSeq D.callbacks r.pre s).flatMap fun s1 =>
      runSeq D.callbacks r.post (if r.internal then s1 else { s1 with leaf := r.dest, pend := [] })

def callAt (D : ActorDesc) (l : LeafId) (m : MsgId) (s : St) : List St :=
  if D.triggers.contains m then fireAt D l m s
  else match D.methods.find? (·.1 == m) with
    | some (_, p) => (exec p [] s).map (·.2)
    | none => [s]

def stepAt (D : ActorDesc) (l : LeafId) (s : St) : Msg → List St
  | .plain m => (callAt D l m { s with pend := removeMsg m s.pend }).map (applyHavoc D)
  | .delayed m =>
      if s.armed == some m then (callAt D l m { s with armed := none }).map (applyHavoc D) else [s]

theorem stepAt_leaf (D : ActorDesc) (s : St) (m : Msg) : stepAt D s.leaf s m = step D s m := by
  cases m <;> rfl

/-! ## The pass -/

/-- `f n`, written so that the kernel evaluates `n` before `f` sees it.  The kernel remembers the value of every closed
    term it has evaluated: `idleAt D 15` is evaluated once however many states of leaf 15 there are, `idleAt D s.leaf`
    once for every `s`, since the terms `s` differ. -/
def withLit {α : Type} (n : Nat) (f : Nat → α) : α :=
  match n with
  | 0 => f 0
  | k + 1 => f (k + 1)

theorem withLit_eq {α : Type} (n : Nat) (f : Nat → α) : withLit n f = f n := by
  cases n <;> rfl

/-- `Q m s'` for every plain message `m` and every outcome `s'` of handling it in `s` -/
def allPlain (D : ActorDesc) (s : St) (Q : MsgId → St → Bool) : Bool :=
  withLit s.leaf fun l =>
    ((liveAt D l ++ s.pend.filter (idleAt D l).contains).all fun m => (stepAt D l s (.plain m)).all (Q m)) &&
    (idleAt D l).all fun m => s.pend.contains m || Q m (applyHavoc D s)

theorem allPlain_sound {D : ActorDesc} {s : St} {Q : MsgId → St → Bool} (h : allPlain D s Q = true)
    {m : MsgId} (hm : m ∈ D.plainMsgs) {s' : St} (hs : s' ∈ step D s (.plain m)) : Q m s' = true := by
  simp only [allPlain, withLit_eq, stepAt_leaf, Bool.and_eq_true, List.all_eq_true, List.mem_append, Bool.or_eq_true, liveAt,
    idleAt, List.mem_filter, List.contains_iff_mem, Bool.not_eq_true'] at h
  by_cases hi : idle D s.leaf m = true
  · by_cases hp : m ∈ s.pend
    · exact h.1 m (Or.inr ⟨hp, hm, hi⟩) s' hs
    · rw [step_idle hi hp hs]
      exact (h.2 m ⟨hm, hi⟩).resolve_left hp
  · exact h.1 m (Or.inl ⟨hm, by simpa using hi⟩) s' hs

/-- `leafClosed`, by `allPlain`.  Sound for any `B` (`leafClosed_of_bucketClosed`).  It is also complete on the certificates
    the generator prints: the outcome `applyHavoc D s` (resp. `s`) of the messages that are not run is looked up in `B` only
    if there is such a message, and then `leafClosed` looks it up too — provided an idle trigger has an outcome, i.e. is not
    marked `total` in a leaf where it has no row, which the generator never does. -/
def bucketClosed (D : ActorDesc) (B : Buckets) (k : Nat) : Bool :=
  (B.getD k []).all fun (_, s) =>
    allPlain D s (fun _ => memB B) &&
    (D.delayedMsgs.all (s.armed == some ·) || memB B s) &&
    s.armed.all fun a => !D.delayedMsgs.contains a || withLit s.leaf fun l => (stepAt D l s (.delayed a)).all (memB B)

theorem leafClosed_of_bucketClosed {D : ActorDesc} {B : Buckets} {k : Nat} (h : bucketClosed D B k = true) :
    leafClosed D B k = true := by
  simp only [leafClosed, List.all_eq_true]
  intro x hx m hm s' hs'
  simp only [bucketClosed, withLit_eq, stepAt_leaf, List.all_eq_true, Bool.and_eq_true, Bool.or_eq_true, beq_iff_eq] at h
  obtain ⟨⟨h1, h2⟩, h3⟩ := h x hx
  simp only [allMsgs, List.mem_append, List.mem_map] at hm
  rcases hm with ⟨m, hm, rfl⟩ | ⟨m, hm, rfl⟩
  · exact allPlain_sound h1 hm hs'
  · by_cases ha : x.2.armed = some m
    · simp only [ha, Option.all_some, List.contains_iff_mem.mpr hm, Bool.not_true, Bool.false_or, List.all_eq_true] at h3
      exact h3 s' hs'
    · rw [step_unarmed ha hs']
      exact h2.resolve_left fun h => ha (h m hm)

theorem closed_of_bucketClosed {D : ActorDesc} {B : Buckets} (h0 : memB B (initSt D) = true)
    (h : (List.range B.length).all (bucketClosed D B) = true) : closed D B = true := by
  simp only [closed, h0, Bool.true_and, List.all_eq_true] at h ⊢
  exact fun k hk => leafClosed_of_bucketClosed (h k hk)

/-! ## A certificate checked in blocks -/

/-- consecutive blocks of buckets, of the given sizes, starting at bucket `lo` -/
def chunksClosed (D : ActorDesc) (B : Buckets) : Nat → List Nat → Prop
  | _, [] => True
  | lo, n :: ns => (List.range' lo n).all (bucketClosed D B) = true ∧ chunksClosed D B (lo + n) ns

theorem all_of_chunksClosed {D : ActorDesc} {B : Buckets} : ∀ (ns : List Nat) (lo : Nat), chunksClosed D B lo ns →
    (List.range' lo ns.sum).all (bucketClosed D B) = true
  | [], _, _ => by simp
  | n :: ns, lo, ⟨h, hs⟩ => by
      rw [List.sum_cons, ← List.range'_append_1, List.all_append, h, all_of_chunksClosed ns _ hs]
      rfl

theorem closed_of_chunks {D : ActorDesc} {B : Buckets} (ns : List Nat) (hlen : B.length = ns.sum)
    (h0 : memB B (initSt D) = true) (h : chunksClosed D B 0 ns) : closed D B = true := by
  refine closed_of_bucketClosed h0 ?_
  rw [hlen, List.range_eq_range']
  exact all_of_chunksClosed ns 0 h

end Poupool
