import Poupool.Model.Glue
import Poupool.Proofs.Closure
/-! Sweeps of a certificate and what the row table says about phases: shared by the per-actor property files and the timed layer. -/
namespace Poupool

def St.v (s : St) (i : Nat) : Int := getNth s.vars i

def allStates (B : Buckets) (P : St → Bool) : Bool := (statesOf B).all P

def allSucc (D : ActorDesc) (B : Buckets) (m : Msg) (P : St → St → Bool) : Bool :=
  (statesOf B).all fun s => (step D s m).all fun s' => P s s'

/-! ## The phase changes only along a row

Programs write variables, the timer slot and the pending set, never `leaf` (`exec_frame`, Proofs/Closure.lean): what the row
table says about phases holds of every step. -/

theorem runSeq_leaf {cbs : List Stmt} {ids : List Nat} {s s' : St} (h : s' ∈ runSeq cbs ids s) : s'.leaf = s.leaf := by
  induction ids generalizing s with
  | nil => rw [List.mem_singleton.mp h]
  | cons i is ih =>
      obtain ⟨x, hx, h⟩ := List.mem_flatMap.mp (mem_runSeq_cons.mp h)
      exact (ih h).trans (exec_frame _ hx).1

/-- the phases trigger `t` can lead to from phase `l`, read off the row table -/
def leafAfter (D : ActorDesc) (t : MsgId) (l : LeafId) : List LeafId :=
  (if D.total.contains (l, t) then [] else [l]) ++
    ((D.rows.getD l []).filter fun r => r.trig == t).map fun r => if r.internal then l else r.dest

theorem fire_leaf {D : ActorDesc} {t : MsgId} {s s' : St} (h : s' ∈ fire D t s) : s'.leaf ∈ leafAfter D t s.leaf := by
  simp only [fire, List.mem_append, List.mem_flatMap] at h
  simp only [leafAfter, List.mem_append, List.mem_map]
  rcases h with h | ⟨r, hr, s1, h1, h2⟩
  · left
    cases hc : D.total.contains (s.leaf, t) <;> simp only [hc, Bool.false_eq_true, if_false, if_true] at h ⊢
    · rw [List.mem_singleton.mp h]
      exact List.mem_singleton.mpr rfl
    · cases h
  · right
    refine ⟨r, hr, ?_⟩
    rw [runSeq_leaf h2]
    cases r.internal
    · rfl
    · exact (runSeq_leaf h1).symm

theorem step_trigger_leaf {D : ActorDesc} {m : MsgId} {s s' : St} (ht : D.triggers.contains m = true)
    (h : s' ∈ step D s (.plain m)) : s'.leaf ∈ leafAfter D m s.leaf := by
  simp only [step, call, ht, if_true, List.mem_map] at h
  obtain ⟨u, hu, rfl⟩ := h
  exact fire_leaf (s := { s with pend := removeMsg m s.pend }) (s' := u) hu

/-- a statement about the phase after trigger `m` follows from the row table alone; `n` bounds the phases that occur -/
theorem allSucc_leaf {D : ActorDesc} {B : Buckets} {m : MsgId} {Q : LeafId → Bool} (n : Nat)
    (ht : D.triggers.contains m = true) (hn : (statesOf B).all (fun s => decide (s.leaf < n)) = true)
    (h : (List.range n).all (fun l => (leafAfter D m l).all Q) = true) :
    allSucc D B (.plain m) (fun _ s' => Q s'.leaf) = true := by
  simp only [allSucc, List.all_eq_true, List.mem_range, decide_eq_true_eq] at hn h ⊢
  exact fun s hs s' hs' => h s.leaf (hn s hs) _ (step_trigger_leaf ht hs')

end Poupool

namespace Poupool.Glue

/-- both hypotheses of `SlaveOK` as one sweep of the certificate -/
def slaveCheck (S : Spec) (B : Buckets) : Bool :=
  (statesOf B).all fun s => (allMsgs S.D).all fun m => (step S.D s m).all fun s' =>
    (!S.isHaltMsg m || S.isHalt s') && (S.isStart m || !S.isHalt s || S.isHalt s')

theorem SlaveOK.of_cert {S : Spec} {B : Buckets} (hc : closed S.D B = true)
    (hin : ∀ m, S.isHaltMsg m = true → m ∈ allMsgs S.D) (h : slaveCheck S B = true) : SlaveOK S := by
  simp only [slaveCheck, List.all_eq_true, Bool.and_eq_true, Bool.or_eq_true, Bool.not_eq_true'] at h
  have key := fun {s s' m} (hr : Reach S.D s) hm hs => h s (reach_in_cert hc hr) m hm s' hs
  constructor
  · intro s s' m hr hh hs
    exact (key hr (hin m hh) hs).1.resolve_left (by simp [hh])
  · intro s s' m hr hh hm hst hs
    exact (key hr hm hs).2.resolve_left (by simp [hst, hh])

end Poupool.Glue
