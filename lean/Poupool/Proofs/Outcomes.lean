import Poupool.Model.Actor
/-!
  Outcome lists of the nondeterministic interpreters, compared element by element.

  `Sim R la lb`: every outcome in `la` has an `R`-related outcome in `lb`.  The interpreters (`evalCond`, `exec`,
  `runSeq`, … and their instrumented, abstract or sentinel versions) are built from singleton lists, `map`, `flatMap`,
  `++` and deduplication; a simulation between two of them is proved clause by clause with the lemmas below.
-/
namespace Poupool

def Sim (R : α → β → Prop) (la : List α) (lb : List β) : Prop := ∀ a ∈ la, ∃ b ∈ lb, R a b

namespace Sim
variable {R : α → β → Prop} {Q : γ → δ → Prop} {la la' : List α} {lb lb' : List β}

theorem nil : Sim R [] lb := fun _ h => nomatch h

theorem cons {a : α} {b : β} (h : R a b) (ht : Sim R la lb) : Sim R (a :: la) (b :: lb) := by
  intro x hx
  rcases List.mem_cons.1 hx with rfl | hx
  · exact ⟨b, List.mem_cons_self, h⟩
  · obtain ⟨y, hy, hr⟩ := ht x hx
    exact ⟨y, List.mem_cons_of_mem _ hy, hr⟩

theorem single {a : α} {b : β} (h : R a b) : Sim R [a] [b] := cons h nil

theorem single_mem {a : α} {b : β} (hb : b ∈ lb) (h : R a b) : Sim R [a] lb :=
  fun _ hx => ⟨b, hb, List.mem_singleton.1 hx ▸ h⟩

theorem refl {l : List α} : Sim Eq l l := fun a h => ⟨a, h, rfl⟩

theorem append (h : Sim R la lb) (h' : Sim R la' lb') : Sim R (la ++ la') (lb ++ lb') := by
  intro a ha
  rcases List.mem_append.1 ha with ha | ha
  · obtain ⟨b, hb, hr⟩ := h a ha
    exact ⟨b, List.mem_append_left _ hb, hr⟩
  · obtain ⟨b, hb, hr⟩ := h' a ha
    exact ⟨b, List.mem_append_right _ hb, hr⟩

theorem flatMap {k : α → List γ} {k' : β → List δ} (h : Sim R la lb)
    (hk : ∀ a b, R a b → Sim Q (k a) (k' b)) : Sim Q (la.flatMap k) (lb.flatMap k') := by
  intro c hc
  obtain ⟨a, ha, hc⟩ := List.mem_flatMap.1 hc
  obtain ⟨b, hb, hr⟩ := h a ha
  obtain ⟨d, hd, hq⟩ := hk a b hr c hc
  exact ⟨d, List.mem_flatMap.2 ⟨b, hb, hd⟩, hq⟩

theorem map {f : α → γ} {g : β → δ} (h : Sim R la lb) (hf : ∀ a b, R a b → Q (f a) (g b)) :
    Sim Q (la.map f) (lb.map g) := by
  intro c hc
  obtain ⟨a, ha, rfl⟩ := List.mem_map.1 hc
  obtain ⟨b, hb, hr⟩ := h a ha
  exact ⟨g b, List.mem_map_of_mem hb, hf a b hr⟩

theorem map_left {f : α → γ} {Q : γ → β → Prop} (h : Sim R la lb) (hf : ∀ a b, R a b → Q (f a) b) :
    Sim Q (la.map f) lb := by
  simpa using h.map (g := id) hf

theorem map_right {g : β → δ} {Q : α → δ → Prop} (h : Sim R la lb) (hg : ∀ a b, R a b → Q a (g b)) :
    Sim Q la (lb.map g) := by
  simpa using h.map (f := id) hg

/-- only the members count (deduplication, reordering) -/
theorem congr (h : Sim R la lb) (hl : ∀ a, a ∈ la' → a ∈ la) (hr : ∀ b, b ∈ lb → b ∈ lb') : Sim R la' lb' :=
  fun a ha => let ⟨b, hb, r⟩ := h a (hl a ha); ⟨b, hr b hb, r⟩

end Sim

def Bisim (R : α → β → Prop) (la : List α) (lb : List β) : Prop := Sim R la lb ∧ Sim (fun b a => R a b) lb la

namespace Bisim
variable {R : α → β → Prop} {Q : γ → δ → Prop} {la la' : List α} {lb lb' : List β}

theorem cons {a : α} {b : β} (h : R a b) (ht : Bisim R la lb) : Bisim R (a :: la) (b :: lb) :=
  ⟨ht.1.cons h, ht.2.cons h⟩

theorem nil : Bisim R [] [] := ⟨Sim.nil, Sim.nil⟩

theorem single {a : α} {b : β} (h : R a b) : Bisim R [a] [b] := cons h nil

theorem refl {l : List α} : Bisim Eq l l := ⟨Sim.refl, fun a h => ⟨a, h, rfl⟩⟩

theorem append (h : Bisim R la lb) (h' : Bisim R la' lb') : Bisim R (la ++ la') (lb ++ lb') :=
  ⟨h.1.append h'.1, h.2.append h'.2⟩

theorem flatMap {k : α → List γ} {k' : β → List δ} (h : Bisim R la lb)
    (hk : ∀ a b, R a b → Bisim Q (k a) (k' b)) : Bisim Q (la.flatMap k) (lb.flatMap k') :=
  ⟨h.1.flatMap fun a b r => (hk a b r).1, h.2.flatMap fun b a r => (hk a b r).2⟩

theorem map {f : α → γ} {g : β → δ} (h : Bisim R la lb) (hf : ∀ a b, R a b → Q (f a) (g b)) :
    Bisim Q (la.map f) (lb.map g) :=
  ⟨h.1.map hf, h.2.map fun b a r => hf a b r⟩

theorem map_right {g : β → δ} {Q : α → δ → Prop} (h : Bisim R la lb) (hg : ∀ a b, R a b → Q a (g b)) :
    Bisim Q la (lb.map g) :=
  ⟨h.1.map_right hg, h.2.map_left fun b a r => hg a b r⟩

theorem congr (h : Bisim R la lb) (hl : ∀ a, a ∈ la' ↔ a ∈ la) (hr : ∀ b, b ∈ lb' ↔ b ∈ lb) : Bisim R la' lb' :=
  ⟨h.1.congr (fun a => (hl a).1) (fun b => (hr b).2), h.2.congr (fun b => (hr b).1) (fun a => (hl a).2)⟩

theorem mem_iff {la : List α} {lx : List (α × ε)} (h : Bisim (fun a x => a = x.1) la lx) (a : α) :
    a ∈ la ↔ ∃ e, (a, e) ∈ lx :=
  ⟨fun ha => let ⟨x, hx, r⟩ := h.1 a ha; ⟨x.2, r ▸ hx⟩,
   fun ⟨e, he⟩ => let ⟨_, hb, r⟩ := h.2 (a, e) he; (show _ = a from r) ▸ hb⟩

end Bisim

/-! ## The interpreters' list operations -/

theorem setNth_eq_set (vs : List Int) (n : Nat) (x : Int) : setNth vs n x = vs.set n x := by
  induction vs generalizing n with
  | nil => rfl
  | cons y ys ih => cases n <;> simp [setNth, ih]

theorem length_setNth (vs : List Int) (n : Nat) (x : Int) : (setNth vs n x).length = vs.length := by
  rw [setNth_eq_set, List.length_set]

theorem getNth_setNth_eq {vs : List Int} {n : Nat} {x : Int} (h : n < vs.length) : getNth (setNth vs n x) n = x := by
  simp [getNth, setNth_eq_set, h]

theorem getNth_setNth_ne {vs : List Int} {n m : Nat} {x : Int} (h : n ≠ m) : getNth (setNth vs n x) m = getNth vs m := by
  simp [getNth, setNth_eq_set, List.getElem?_set_ne h]

theorem getD_of_forall {P : α → Prop} {l : List α} {d : α} (h : ∀ x ∈ l, P x) (hd : P d) (i : Nat) : P (l.getD i d) := by
  rw [List.getD_eq_getElem?_getD]
  cases hi : l[i]? with
  | none => exact hd
  | some x => exact h x (List.mem_of_getElem? hi)

theorem find?_map_eq_some {l : List α} {p : α → Bool} {f : α → β} {y : β} (h : (l.find? p).map f = some y) :
    ∃ x ∈ l, f x = y :=
  let ⟨x, hx, e⟩ := Option.map_eq_some_iff.1 h
  ⟨x, List.mem_of_find?_eq_some hx, e⟩

theorem mem_dedup_cons {α} [BEq α] [LawfulBEq α] {x y : α} {ys r : List α} (ih : x ∈ r ↔ x ∈ ys) :
    x ∈ (if ys.contains y then r else y :: r) ↔ x ∈ y :: ys := by
  split
  · rename_i h
    rw [ih, List.mem_cons]
    exact ⟨Or.inr, fun h' => h'.elim (fun e => e ▸ List.contains_iff_mem.1 h) id⟩
  · rw [List.mem_cons, List.mem_cons, ih]

theorem mem_dedupFS {x : Flow × St} {l : List (Flow × St)} : x ∈ dedupFS l ↔ x ∈ l := by
  induction l with
  | nil => rfl
  | cons y ys ih => exact mem_dedup_cons ih

theorem mem_dedupS {x : St} {l : List St} : x ∈ dedupS l ↔ x ∈ l := by
  induction l with
  | nil => rfl
  | cons y ys ih => exact mem_dedup_cons ih

/-- `runSeq` folds over the set of states reached so far; as a set it is the outcomes from each of them -/
theorem mem_foldl_runSeq (cbs : List Stmt) (ids : List Nat) (acc : List St) (s' : St) :
    s' ∈ ids.foldl (fun acc i => dedupS (acc.flatMap fun st =>
        (exec (cbs.getD i (.opaque 999)) [] st).map (·.2))) acc ↔ ∃ s0 ∈ acc, s' ∈ runSeq cbs ids s0 := by
  induction ids generalizing acc with
  | nil => simp [runSeq]
  | cons i is ih =>
      have hc : ∀ s0, s' ∈ runSeq cbs (i :: is) s0 ↔ _ := fun s0 => by rw [runSeq, List.foldl_cons, ih]
      rw [List.foldl_cons, ih]
      simp only [hc, mem_dedupS, List.mem_flatMap, List.mem_singleton, exists_eq_left]
      exact ⟨fun ⟨s1, ⟨s0, h0, h1⟩, h⟩ => ⟨s0, h0, s1, h1, h⟩, fun ⟨s0, h0, s1, h1, h⟩ => ⟨s1, ⟨s0, h0, h1⟩, h⟩⟩

theorem mem_runSeq_cons {cbs : List Stmt} {i : Nat} {is : List Nat} {s s' : St} :
    s' ∈ runSeq cbs (i :: is) s ↔
      s' ∈ (exec (cbs.getD i (.opaque 999)) [] s).flatMap fun x => runSeq cbs is x.2 := by
  rw [runSeq, List.foldl_cons, mem_foldl_runSeq]
  simp only [mem_dedupS, List.flatMap_singleton, ← List.mem_flatMap, List.flatMap_map]

end Poupool
