import Poupool.Proofs.ComposeInv
/-!
  The ghost discipline of a generated master, as a decidable checker on its generated programs, and its
  soundness with respect to the effect-reporting interpreter `execE` (induction over `Stmt`).

  The checker is a three-valued abstract interpretation of the relation between
    c = "the ghost variable currently holds a `known halted` value"   (concrete, in the master's `vars`)
    a = "reading the effects performed so far in order, the last thing done towards X is a halt-class tell or an
         `is_halt` answered TRUE"                                          (`ghostAfter`)
  * `T` : a holds;          * `S` : c → a;          * `B` : nothing known (a start message has been told to X and
  the ghost variable has not been overwritten yet, or the ghost variable was set to a halted value without a
  halt-class tell / TRUE answer before it).
  A program is accepted if, started in `S`, no path ends in `B`.  Hence on every path the variable is given a
  halted value only right after a halt-class tell tag (state `T`) or by a TRUE refinement, and a non-halted value
  after every tell of a start message to X; assigning a non-halted value elsewhere is harmless and accepted, and so
  is telling X a message that is neither halt-class nor a start message without touching the variable.
-/
namespace Poupool.Compose

inductive Abs | T | S | B
  deriving DecidableEq, Repr, Inhabited

def Abs.ok : Abs → Bool
  | .B => false
  | _ => true

/-- concretisation: `c` concrete knowledge, `a` abstract knowledge -/
def γ : Abs → Bool → Bool → Prop
  | .T, _, a => a = true
  | .S, c, a => c = true → a = true
  | .B, _, _ => True

/-- the ghost variable is assigned a constant; `g` = is it a "known halted" value -/
def absSet (g : Bool) : Abs → Abs
  | .T => .T
  | _ => if g then .B else .S

def absSetUnknown : Abs → Abs
  | .T => .T
  | _ => .B

def absTag (S : CSpec) (t : Nat) (ab : Abs) : Abs :=
  match S.tells.lookup t with
  | some m => if S.isHaltMsg m then .T else if S.isStart m then .B else ab
  | none => ab

def absRef (S : CSpec) (t : List (VarId × Int)) (ab : Abs) : Abs :=
  match lastAssign S.v t with
  | some x => absSet (S.isG x) ab
  | none => ab

def absAsk (S : CSpec) (r : List (VarId × Int)) (ab : Abs) : Abs :=
  if askHalting S r then .T else absRef S r ab

def absCond (S : CSpec) : Cond → Abs → List (Bool × Abs)
  | .nondet, a => [(true, a), (false, a)]
  | .tt, a => [(true, a)]
  | .ff, a => [(false, a)]
  | .leafIn _, a => [(true, a), (false, a)]
  | .cmp _ _ _, a => [(true, a), (false, a)]
  | .ask t f, a => [(true, absAsk S t a), (false, absAsk S f a)]
  | .not c, a => (absCond S c a).map fun (b, a') => (!b, a')
  | .and x y, a => (absCond S x a).flatMap fun (b, a') => if b then absCond S y a' else [(false, a')]
  | .or x y, a => (absCond S x a).flatMap fun (b, a') => if b then [(true, a')] else absCond S y a'

def dedupA : List (Flow × Abs) → List (Flow × Abs)
  | [] => []
  | x :: xs => if xs.contains x then dedupA xs else x :: dedupA xs

def absExec (S : CSpec) : Stmt → Abs → List (Flow × Abs)
  | .skip, a => [(.normal, a)]
  | .seq p q, a =>
      (dedupA (absExec S p a)).flatMap fun (f, a') =>
        match f with
        | .normal => absExec S q a'
        | _ => [(f, a')]
  | .set w e, a =>
      if w = S.v then
        match e with
        | .const n => [(.normal, absSet (S.isG n) a)]
        | _ => [(.normal, absSetUnknown a)]
      else [(.normal, a)]
  | .ite c t e, a => (absCond S c a).flatMap fun (b, a') => if b then absExec S t a' else absExec S e a'
  | .choose p q, a => absExec S p a ++ absExec S q a
  | .forSetting _ _ body, a => absExec S body a
  | .delay _, a => [(.normal, a)]
  | .cancel, a => [(.normal, a)]
  | .selfTell _, a => [(.normal, a)]
  | .ret, a => [(.returned, a)]
  | .stopRepeat, a => [(.stopped, a)]
  | .doRepeat body _, a => (absExec S body a).map fun (_, a') => (.normal, a')
  | .emit t, a => [(.normal, absTag S t a)]
  | .scope body, a =>
      (absExec S body a).map fun (f, a') =>
        match f with
        | .returned => (.normal, a')
        | _ => (f, a')
  | .opaque _, a => [(.normal, a)]

def progOK (S : CSpec) (p : Stmt) : Bool := (absExec S p .S).all fun x => x.2.ok

/-- `havoc` can only forget the knowledge … -/
def havocOK (S : CSpec) : Bool := S.DM.havoc.all fun (w, _, x) => w != S.v || !S.isG x

/-- … and does forget it in every allowed phase -/
def allowedOK (S : CSpec) : Bool :=
  S.allowed.all fun l => S.DM.havoc.any fun (w, ls, x) => w == S.v && ls.contains l && !S.isG x

def ghostDiscipline (S : CSpec) : Bool :=
  decide (S.v < S.DM.initVars.length) &&
  (!S.isG (getNth S.DM.initVars S.v) || (S.isHalt (initSt S.DX) && !S.allowed.contains S.DM.initLeaf)) &&
  S.DM.callbacks.all (progOK S) &&
  S.DM.methods.all (fun mp => progOK S mp.2) &&
  havocOK S && allowedOK S

theorem refine_length (t : List (VarId × Int)) (vs : List Int) :
    (t.foldl (fun vs (p : VarId × Int) => setNth vs p.1 p.2) vs).length = vs.length := by
  induction t generalizing vs with
  | nil => rfl
  | cons p t ih => simp only [List.foldl_cons, ih, length_setNth]

theorem refine_get (v : VarId) (t : List (VarId × Int)) (vs : List Int) (hv : v < vs.length) :
    getNth (t.foldl (fun vs (p : VarId × Int) => setNth vs p.1 p.2) vs) v =
      match lastAssign v t with
      | some x => x
      | none => getNth vs v := by
  induction t generalizing vs with
  | nil => rfl
  | cons p t ih =>
      obtain ⟨w, x⟩ := p
      simp only [List.foldl_cons, lastAssign]
      rw [ih _ (by simpa [length_setNth] using hv)]
      cases lastAssign v t with
      | some y => rfl
      | none =>
          by_cases hw : w = v
          · subst hw
            simp [getNth_setNth_eq hv]
          · simp [hw, getNth_setNth_ne hw]

theorem mem_dedupA {x : Flow × Abs} {l : List (Flow × Abs)} : x ∈ dedupA l ↔ x ∈ l := by
  induction l with
  | nil => rfl
  | cons y ys ih => exact mem_dedup_cons ih

theorem ghostAfter_nil (S : CSpec) (a : Bool) : ghostAfter S a [] = a := rfl

theorem ghostAfter_append (S : CSpec) (a : Bool) (e1 e2 : List Eff) :
    ghostAfter S a (e1 ++ e2) = ghostAfter S (ghostAfter S a e1) e2 := by
  simp [ghostAfter, List.foldl_append]

/-! ## soundness of the abstract interpretation -/

theorem γ_absSet {ab : Abs} {c a : Bool} (g : Bool) (h : γ ab c a) : γ (absSet g ab) g a := by
  cases ab <;> cases g <;> simp_all [γ, absSet]

/-- While the master performs the effects `e` and its variables go from `vs` to `vs'`, the abstract value goes from `ab`
    to `ab'`: whatever knowledge bit `ab` relates to the ghost variable in `vs` (long enough to hold it), `ab'` relates
    that bit read on through `e` to the ghost variable in `vs'`.  Stated for every start bit, pieces compose (`trans`)
    without a monotonicity argument. -/
structure Transfers (S : CSpec) (ab : Abs) (vs : List Int) (e : List Eff) (ab' : Abs) (vs' : List Int) : Prop where
  len : vs'.length = vs.length
  sound : S.v < vs.length → ∀ a, γ ab (S.isG (getNth vs S.v)) a → γ ab' (S.isG (getNth vs' S.v)) (ghostAfter S a e)

/-- the abstract outcome `y` accounts for the instrumented outcome `x` of a piece of program started in state `s` with
    abstract value `ab` -/
structure Abstracts (S : CSpec) (ab : Abs) (s : St) (x : α × St × List Eff) (y : α × Abs) : Prop where
  flow : y.1 = x.1
  tr : Transfers S ab s.vars x.2.2 y.2 x.2.1.vars

section
variable {S : CSpec} {ab ab1 ab2 : Abs} {vs vs1 vs2 : List Int} {e1 e2 : List Eff}

namespace Transfers

theorem nil : Transfers S ab vs [] ab vs := ⟨rfl, fun _ _ h => h⟩

theorem trans (h1 : Transfers S ab vs e1 ab1 vs1) (h2 : Transfers S ab1 vs1 e2 ab2 vs2) :
    Transfers S ab vs (e1 ++ e2) ab2 vs2 := by
  refine ⟨h2.len.trans h1.len, fun hv a h => ?_⟩
  rw [ghostAfter_append]
  exact h2.sound (h1.len ▸ hv) _ (h1.sound hv a h)

theorem tag (t : Nat) : Transfers S ab vs [.emit t] (absTag S t ab) vs := by
  refine ⟨rfl, fun _ a h => ?_⟩
  simp only [absTag, ghostAfter, List.foldl_cons, List.foldl_nil, ghost1]
  cases S.tells.lookup t with
  | none => exact h
  | some m =>
      dsimp only
      cases S.isHaltMsg m with
      | true => rfl
      | false =>
          cases S.isStart m with
          | true => trivial
          | false => exact h

theorem ask (ans : Bool) (t f : List (VarId × Int)) :
    Transfers S ab vs [.ask ans t f] (absAsk S (if ans then t else f) ab)
      ((if ans then t else f).foldl (fun vs (p : VarId × Int) => setNth vs p.1 p.2) vs) := by
  refine ⟨refine_length _ _, fun hv a h => ?_⟩
  simp only [ghostAfter, List.foldl_cons, List.foldl_nil, ghost1, absAsk]
  cases askHalting S (if ans then t else f)
  · simp only [Bool.or_false, Bool.false_eq_true, if_false, absRef]
    rw [refine_get S.v _ vs hv]
    cases lastAssign S.v (if ans then t else f) with
    | some x => exact γ_absSet _ h
    | none => exact h
  · simp [γ]

theorem setGhost (k : Int) : Transfers S ab vs [] (absSet (S.isG k) ab) (setNth vs S.v k) := by
  refine ⟨length_setNth .., fun hv a h => ?_⟩
  rw [getNth_setNth_eq hv]
  exact γ_absSet _ h

theorem setOther {w : VarId} (hw : w ≠ S.v) (y : Int) : Transfers S ab vs [] ab (setNth vs w y) := by
  refine ⟨length_setNth .., fun _ a h => ?_⟩
  rw [getNth_setNth_ne hw]
  exact h

theorem unknown {vs' : List Int} (hl : vs'.length = vs.length) : Transfers S ab vs [] (absSetUnknown ab) vs' := by
  refine ⟨hl, fun _ a h => ?_⟩
  cases ab <;> simp_all [γ, absSetUnknown, ghostAfter]

end Transfers

theorem Abstracts.after {s s1 : St} {x : α × St × List Eff} {y : α × Abs} (h1 : Transfers S ab s.vars e1 ab1 s1.vars)
    (h : Abstracts S ab1 s1 x y) : Abstracts S ab s (x.1, x.2.1, e1 ++ x.2.2) y :=
  ⟨h.flow, h1.trans h.tr⟩

theorem absCond_sim (l : List Int) (c : Cond) (s : St) (ab : Abs) :
    Sim (Abstracts S ab s) (evalCondE l c s) (absCond S c ab) := by
  induction c generalizing s ab with
  | nondet => exact .cons ⟨rfl, .nil⟩ (.single ⟨rfl, .nil⟩)
  | tt | ff => exact .single ⟨rfl, .nil⟩
  | leafIn ls =>
      exact .single_mem (b := (ls.contains s.leaf, ab)) (by cases ls.contains s.leaf <;> simp [absCond]) ⟨rfl, .nil⟩
  | cmp op x y =>
      have two : Sim (Abstracts S ab s) [(true, s, []), (false, s, [])] [(true, ab), (false, ab)] :=
        .cons ⟨rfl, .nil⟩ (.single ⟨rfl, .nil⟩)
      simp only [evalCondE, absCond]
      cases evalExpr l s.vars x <;> cases evalExpr l s.vars y
      · exact two
      · exact two
      · exact two
      · rename_i u v
        exact .single_mem (b := (cmpInt op u v, ab)) (by cases cmpInt op u v <;> simp) ⟨rfl, .nil⟩
  | ask t f => exact .cons ⟨rfl, .ask true t f⟩ (.single ⟨rfl, .ask false t f⟩)
  | not c ih => exact (ih s ab).map fun _ _ r => ⟨by simp [r.flow], r.tr⟩
  | and x y ihx ihy =>
      refine (ihx s ab).flatMap ?_
      rintro ⟨_, s1, e1⟩ ⟨b1, ab1⟩ ⟨rfl, r1⟩
      cases b1
      · exact .single ⟨rfl, r1⟩
      · exact (ihy s1 ab1).map_left fun _ _ r => r.after r1
  | or x y ihx ihy =>
      refine (ihx s ab).flatMap ?_
      rintro ⟨_, s1, e1⟩ ⟨b1, ab1⟩ ⟨rfl, r1⟩
      cases b1
      · exact (ihy s1 ab1).map_left fun _ _ r => r.after r1
      · exact .single ⟨rfl, r1⟩

theorem absExec_sim (p : Stmt) (l : List Int) (s : St) (ab : Abs) :
    Sim (Abstracts S ab s) (execE p l s) (absExec S p ab) := by
  induction p generalizing l s ab with
  | skip | delay | cancel | selfTell | ret | stopRepeat | «opaque» => exact .single ⟨rfl, .nil⟩
  | emit t => exact .single ⟨rfl, .tag t⟩
  | set w x =>
      simp only [execE, absExec]
      by_cases hw : w = S.v
      · subst hw
        rw [if_pos rfl]
        -- whatever a non-constant expression evaluates to, nothing is known about the ghost variable afterwards
        have unk : Sim (Abstracts S ab s)
            (match evalExpr l s.vars x with
              | some y => [(Flow.normal, { s with vars := setNth s.vars S.v y }, [])]
              | none => [(Flow.normal, { s with bad := true }, [])])
            [(Flow.normal, absSetUnknown ab)] := by
          cases evalExpr l s.vars x
          · exact .single ⟨rfl, .unknown rfl⟩
          · exact .single ⟨rfl, .unknown (length_setNth ..)⟩
        cases x with
        | const k => exact .single ⟨rfl, .setGhost k⟩
        | _ => exact unk
      · rw [if_neg hw]
        cases evalExpr l s.vars x
        · exact .single ⟨rfl, .nil⟩
        · exact .single ⟨rfl, .setOther hw _⟩
  | seq p q ihp ihq =>
      refine ((ihp l s ab).congr (fun _ => id) fun _ => mem_dedupA.2).flatMap ?_
      rintro ⟨_, s1, e1⟩ ⟨f1, ab1⟩ ⟨rfl, r1⟩
      cases f1
      · exact (ihq l s1 ab1).map_left fun _ _ r => r.after r1
      · exact .single ⟨rfl, r1⟩
      · exact .single ⟨rfl, r1⟩
  | ite c t el iht ihe =>
      refine (absCond_sim l c s ab).flatMap ?_
      rintro ⟨_, s1, e1⟩ ⟨b, ab1⟩ ⟨rfl, r1⟩
      cases b
      · exact (ihe l s1 ab1).map_left fun _ _ r => r.after r1
      · exact (iht l s1 ab1).map_left fun _ _ r => r.after r1
  | choose p q ihp ihq => exact (ihp l s ab).append (ihq l s ab)
  | forSetting loc vals body ih =>
      intro x hx
      obtain ⟨v, _, hx⟩ := List.mem_flatMap.1 hx
      exact ih (l ++ [v]) s ab x hx
  | doRepeat body poll ih =>
      refine (ih l s ab).map ?_
      rintro ⟨f1, s1, e1⟩ w r
      cases f1 <;> exact ⟨rfl, r.tr⟩
  | scope body ih =>
      refine (ih l s ab).map ?_
      rintro ⟨_, s1, e1⟩ ⟨f1, ab1⟩ ⟨rfl, r1⟩
      cases f1 <;> exact ⟨rfl, r1⟩

end

/-! ## from programs to handlers -/

/-- if the ghost variable claimed no more than the knowledge bit before, it claims no more than that bit read through
    the effects `e` afterwards -/
abbrev Disciplined (S : CSpec) (vs : List Int) (e : List Eff) (vs' : List Int) : Prop := Transfers S .S vs e .S vs'

section
variable {S : CSpec} {s s' : St} {e : List Eff}

theorem progOK_sound {p : Stmt} (hp : progOK S p = true) {l : List Int} {f : Flow} (h : (f, s', e) ∈ execE p l s) :
    Disciplined S s.vars e s'.vars := by
  obtain ⟨⟨_, ab'⟩, hm, _, r⟩ := absExec_sim p l s .S _ h
  have hok : ab'.ok = true := List.all_eq_true.1 hp _ hm
  cases ab' with
  | T => exact ⟨r.len, fun hv a ha _ => r.sound hv a ha⟩
  | S => exact r
  | B => cases hok

theorem runSeqE_disciplined (hcb : S.DM.callbacks.all (progOK S) = true) (ids : List Nat)
    (h : (s', e) ∈ runSeqE S.DM.callbacks ids s) : Disciplined S s.vars e s'.vars := by
  induction ids generalizing s e with
  | nil =>
      cases List.mem_singleton.1 h
      exact .nil
  | cons i is ih =>
      simp only [runSeqE, List.mem_flatMap, List.mem_map, Prod.exists, Prod.mk.injEq] at h
      obtain ⟨f, s1, e1, h1, s2, e2, h2, rfl, rfl⟩ := h
      exact (progOK_sound (getD_of_forall (List.all_eq_true.mp hcb) rfl i) h1).trans (ih h2)

theorem fireE_disciplined (hcb : S.DM.callbacks.all (progOK S) = true) {t : MsgId} (h : (s', e) ∈ fireE S.DM t s) :
    Disciplined S s.vars e s'.vars := by
  simp only [fireE, List.mem_append, List.mem_flatMap, List.mem_map, Prod.exists, Prod.mk.injEq] at h
  rcases h with h | ⟨r, _, s1, e1, h1, s2, e2, h2, rfl, rfl⟩
  · split at h
    · cases h
    · cases List.mem_singleton.1 h
      exact .nil
  · have hvars : (if r.internal then s1 else { s1 with leaf := r.dest, pend := [] }).vars = s1.vars := by
      split <;> rfl
    exact (runSeqE_disciplined hcb r.pre h1).trans (hvars ▸ runSeqE_disciplined hcb r.post h2)

theorem callE_disciplined (hcb : S.DM.callbacks.all (progOK S) = true) (hme : S.DM.methods.all (fun mp => progOK S mp.2) = true)
    {m : MsgId} (h : (s', e) ∈ callE S.DM m s) : Disciplined S s.vars e s'.vars := by
  unfold callE at h
  split at h
  · exact fireE_disciplined hcb h
  · split at h
    · rename_i p hf
      obtain ⟨⟨f, s1, e1⟩, h1, h⟩ := List.mem_map.1 h
      cases h
      exact progOK_sound (List.all_eq_true.mp hme _ (List.mem_of_find?_eq_some hf)) h1
    · cases List.mem_singleton.1 h
      exact .nil

end

/-- `havoc` only ever turns the knowledge off: if it is on afterwards, it was on before and no entry for the ghost
    variable fired -/
theorem havoc_fold (S : CSpec) (leaf : LeafId) (hv : List (VarId × List LeafId × Int))
    (hok : hv.all (fun (w, _, x) => w != S.v || !S.isG x) = true) (vs : List Int) (hlt : S.v < vs.length) :
    let vs' := hv.foldl (fun vs (p : VarId × List LeafId × Int) => if p.2.1.contains leaf then setNth vs p.1 p.2.2 else vs) vs
    vs'.length = vs.length ∧ (S.isG (getNth vs' S.v) = true →
      S.isG (getNth vs S.v) = true ∧ ∀ p ∈ hv, p.1 = S.v → p.2.1.contains leaf = false) := by
  induction hv generalizing vs with
  | nil => exact ⟨rfl, fun h => ⟨h, nofun⟩⟩
  | cons p rest ih =>
      obtain ⟨w, ls, x⟩ := p
      simp only [List.all_cons, Bool.and_eq_true, Bool.or_eq_true, bne_iff_ne, ne_eq, Bool.not_eq_true'] at hok
      simp only [List.foldl_cons, List.forall_mem_cons]
      cases hc : ls.contains leaf
      · simp only [Bool.false_eq_true, if_false]
        obtain ⟨hl, hg⟩ := ih hok.2 vs hlt
        exact ⟨hl, fun h => ⟨(hg h).1, fun _ => trivial, (hg h).2⟩⟩
      · simp only [if_true]
        obtain ⟨hl, hg⟩ := ih hok.2 (setNth vs w x) (by rwa [length_setNth])
        refine ⟨by rw [hl, length_setNth], fun h => ?_⟩
        obtain ⟨h1, h2⟩ := hg h
        have hw : w ≠ S.v := fun e => by
          subst e
          rw [getNth_setNth_eq hlt] at h1
          rcases hok.1 with hp | hp
          · exact hp rfl
          · rw [hp] at h1; cases h1
        rw [getNth_setNth_ne hw] at h1
        exact ⟨h1, fun e => absurd e hw, h2⟩

/-- … and, by `allowedOK`, an entry for it fires in every allowed phase -/
theorem applyHavoc_disciplined (S : CSpec) (hh : havocOK S = true) (ha : allowedOK S = true) (s : St) (hv : S.v < s.vars.length) :
    (applyHavoc S.DM s).vars.length = s.vars.length ∧
    (S.G (applyHavoc S.DM s) = true → S.G s = true ∧ S.allowed.contains s.leaf = false) := by
  obtain ⟨hl, hg⟩ := havoc_fold S s.leaf S.DM.havoc hh s.vars hv
  refine ⟨hl, fun h => ⟨(hg h).1, ?_⟩⟩
  cases hc : S.allowed.contains s.leaf
  · rfl
  · obtain ⟨⟨w, ls, x⟩, hp, hq⟩ := List.any_eq_true.1 (List.all_eq_true.1 ha s.leaf (List.contains_iff_mem.1 hc))
    simp only [Bool.and_eq_true, beq_iff_eq] at hq
    rw [(hg h).2 _ hp hq.1.1] at hq
    exact absurd hq.1.2 (by simp)

theorem masterOK_of_discipline (S : CSpec) (h : ghostDiscipline S = true) : MasterOK S := by
  simp only [ghostDiscipline, Bool.and_eq_true, decide_eq_true_eq] at h
  obtain ⟨⟨⟨⟨⟨hvlt, hinit⟩, hcb⟩, hme⟩, hh⟩, ha⟩ := h
  refine ⟨hvlt, ?_, ?_⟩
  · intro hg
    simpa [hg] using hinit
  · intro s msg s' effs hv hstep
    -- the handler proper runs from a state with the variables of `s`; `havoc` is applied to its outcome
    have key : ∀ {s0 s1 : St} {m : MsgId}, s0.vars = s.vars → (s1, effs) ∈ callE S.DM m s0 →
        (applyHavoc S.DM s1).vars.length = s.vars.length ∧
        (S.G (applyHavoc S.DM s1) = true → ghostAfter S (S.G s) effs = true) ∧
        ((S.G s = true → S.allowed.contains s.leaf = false) →
          S.G (applyHavoc S.DM s1) = true → S.allowed.contains (applyHavoc S.DM s1).leaf = false) := by
      intro s0 s1 m h0 hc
      have r := h0 ▸ callE_disciplined hcb hme hc
      obtain ⟨hlen, hG⟩ := applyHavoc_disciplined S hh ha s1 (r.len ▸ hv)
      exact ⟨hlen.trans r.len, fun hg => r.sound hv _ id (hG hg).1, fun _ hg => (hG hg).2⟩
    cases msg with
    | plain m =>
        obtain ⟨⟨s1, e1⟩, hc, h⟩ := List.mem_map.1 hstep
        cases h
        exact key (s0 := { s with pend := removeMsg m s.pend }) rfl hc
    | delayed m =>
        simp only [stepE] at hstep
        split at hstep
        · obtain ⟨⟨s1, e1⟩, hc, h⟩ := List.mem_map.1 hstep
          cases h
          exact key (s0 := { s with armed := none }) rfl hc
        · cases List.mem_singleton.1 hstep
          exact ⟨rfl, id, id⟩

/-- **The pair theorem from the two checks that are evaluated per pair**: the discipline of the generated master and
    H1/H2 on the slave's certificate. -/
theorem halted_of_checks (S : CSpec) (hd : ghostDiscipline S = true) (hx : Glue.SlaveOK S.toGlue) {g : CSt}
    (h : CReach S g) (hidle : g.todo = []) (hg : S.isG (getNth g.m.vars S.v) = true) (hs : noMaster g.inbox) :
    S.isHalt g.x = true :=
  halted_when_served S (masterOK_of_discipline S hd) (slaveOK_of_glue hx) h hidle hg hs

end Poupool.Compose
