/-
  Symbolic execution of long stretches of eco_waiting polls (a whole day is more than 8600 polls, too many to evaluate
  one by one in an `example`) and the concrete runs of the examples / counterexample of C10 sections (g), (h): `hd…` two heating
  days, `mi…` two interludes in one day, `ce…` the counterexample with three.
-/
import Poupool.Proofs.EcoHeatDays

namespace Poupool.Eco
open Poupool.Generated

/-- eco_waiting polled at `t` with the pause timer at `cur`, last save at `ls`, last persisted duration `sv` -/
def lateSt (base : Loop) (t cur ls sv : Int) : Loop :=
  { base with now := t, due := t + EcoConfig.pollDelayUs, saved := sv,
              eco := { base.eco with current := { base.eco.current with duration := cur, last := some t },
                                     filtration := { base.eco.filtration with last := some t }, lastSave := ls } }

theorem wait_poll (eps : Int) (base : Loop) (t cur ls sv j1 j2 : Int)
    (hp : base.phase = .waiting) (hpump : base.pumpOn = false)
    (hl : base.eco.filtration.delay ≤ base.eco.filtration.duration ∨ cur + EcoConfig.pollDelayUs < base.eco.current.delay)
    (hnr : t + EcoConfig.pollDelayUs < base.eco.nextReset) :
    (ecoStep eps (lateSt base t cur ls sv) (.tick 0 j1 j2)).1
      = lateSt base (t + EcoConfig.pollDelayUs) (cur + EcoConfig.pollDelayUs)
          (if EcoConfig.saveIntervalUs < t + EcoConfig.pollDelayUs - ls then t + EcoConfig.pollDelayUs else ls)
          (if EcoConfig.saveIntervalUs < t + EcoConfig.pollDelayUs - ls then base.eco.filtration.duration else sv) := by
  have hpoll := cfg_poll
  have hT : max (lateSt base t cur ls sv).now (lateSt base t cur ls sv).due + 0 = t + EcoConfig.pollDelayUs := by
    show max t (t + EcoConfig.pollDelayUs) + 0 = _
    omega
  have hr : ¬ (lateSt base t cur ls sv).eco.nextReset ≤ max (lateSt base t cur ls sv).now (lateSt base t cur ls sv).due + 0 := by
    rw [hT]
    show ¬ base.eco.nextReset ≤ _
    omega
  have hpol : polled eps (lateSt base t cur ls sv) 0 0 1
      = { lateSt base (t + EcoConfig.pollDelayUs) (cur + EcoConfig.pollDelayUs)
          (if EcoConfig.saveIntervalUs < t + EcoConfig.pollDelayUs - ls then t + EcoConfig.pollDelayUs else ls)
          (if EcoConfig.saveIntervalUs < t + EcoConfig.pollDelayUs - ls then base.eco.filtration.duration else sv)
          with due := t + EcoConfig.pollDelayUs } := by
    have hg : (lateSt base t cur ls sv).eco.current.gain (t + EcoConfig.pollDelayUs) 1 1 = EcoConfig.pollDelayUs :=
      (Timer.gain_one _ _ rfl).trans (by omega)
    rw [polled_noreset eps _ 0 0 1 hr, hT, Timer.gain_zero, hg]
    simp only [lateSt, hpump, Bool.false_eq_true, if_false, Int.add_zero]
  have he : (polled eps (lateSt base t cur ls sv) 0 0 1).eco.elapsedOff = false := by
    rw [hpol]
    show (decide (base.eco.current.delay ≤ cur + EcoConfig.pollDelayUs)
      && !decide (base.eco.filtration.delay ≤ base.eco.filtration.duration)) = false
    rcases hl with hl | hl
    · rw [decide_eq_true hl, Bool.not_true, Bool.and_false]
    · rw [decide_eq_false (Int.not_le.mpr hl), Bool.false_and]
  have hp' : (lateSt base t cur ls sv).phase = .waiting := hp
  rw [step_polled eps _ 0 j1 j2 (Or.inl hp'), pollF_waiting hp', if_neg hr, Loop.phaseOver_waiting ((polled_phase ..).trans hp'), he,
    if_neg Bool.false_ne_true, hpol]
  rfl

/-- the instant of the last save and the last persisted duration after `n` more on-time polls -/
def saveAfter (dur : Int) : Nat → Int → Int → Int → Int × Int
  | 0, _, ls, sv => (ls, sv)
  | n + 1, t, ls, sv =>
    if EcoConfig.saveIntervalUs < t + EcoConfig.pollDelayUs - ls
    then saveAfter dur n (t + EcoConfig.pollDelayUs) (t + EcoConfig.pollDelayUs) dur
    else saveAfter dur n (t + EcoConfig.pollDelayUs) ls sv

/-- `n` on-time polls of eco_waiting before the reset, none of which ends the pause: the quota is used up, or the pause
lasts longer.  Only the clock, the pause timer and the persistence bookkeeping move. -/
theorem wait_polls (eps : Int) (base : Loop) (hp : base.phase = .waiting) (hpump : base.pumpOn = false) (n : Nat) :
    ∀ (t cur ls sv : Int), t + n * EcoConfig.pollDelayUs < base.eco.nextReset →
      (base.eco.filtration.delay ≤ base.eco.filtration.duration ∨ cur + n * EcoConfig.pollDelayUs < base.eco.current.delay) →
      ecoFinal eps (lateSt base t cur ls sv) (List.replicate n (.tick 0 0 0))
        = lateSt base (t + n * EcoConfig.pollDelayUs) (cur + n * EcoConfig.pollDelayUs)
            (saveAfter base.eco.filtration.duration n t ls sv).1 (saveAfter base.eco.filtration.duration n t ls sv).2 := by
  have hpoll := cfg_poll
  induction n with
  | zero => intro t cur ls sv _ _; simp [ecoFinal, saveAfter]
  | succ n ih =>
    intro t cur ls sv hnr hcur
    have e0 : ((n + 1 : Nat) : Int) * EcoConfig.pollDelayUs = EcoConfig.pollDelayUs + n * EcoConfig.pollDelayUs := by
      rw [Int.natCast_succ, Int.add_mul, Int.one_mul, Int.add_comm]
    rw [e0] at hnr hcur ⊢
    have hn0 : (0 : Int) ≤ n * EcoConfig.pollDelayUs := Int.mul_nonneg (Int.natCast_nonneg n) (by omega)
    show ecoFinal eps (ecoStep eps (lateSt base t cur ls sv) (.tick 0 0 0)).1 (List.replicate n (.tick 0 0 0)) = _
    rw [wait_poll eps base t cur ls sv 0 0 hp hpump (hcur.imp_right (by omega)) (by omega),
      ih _ _ _ _ (by omega) (hcur.imp_right (by omega)), ← Int.add_assoc, ← Int.add_assoc]
    simp only [saveAfter]
    split <;> rfl

theorem lateSt_self (base : Loop) (h1 : base.due = base.now + EcoConfig.pollDelayUs)
    (h2 : base.eco.current.last = some base.now) (h3 : base.eco.filtration.last = some base.now) :
    lateSt base base.now base.eco.current.duration base.eco.lastSave base.saved = base := by
  -- the structures are opened as far as the three equations reach: `base`, its `eco`, the two timers
  cases base with | mk eco =>
  cases eco with | mk filtration current =>
  cases filtration
  cases current
  simp only at h1 h2 h3
  subst h1 h2 h3
  rfl

/-- the ticks of a long run: a few, a replicated one, a few more -/
theorem forall_mem_replicate_mid {P : Ev → Prop} (a b : List Ev) (n : Nat) (x : Ev) (ha : ∀ e ∈ a, P e) (hx : P x)
    (hb : ∀ e ∈ b, P e) : ∀ e ∈ a ++ List.replicate n x ++ b, P e := by
  intro e he
  rcases List.mem_append.mp he with h | h
  · rcases List.mem_append.mp h with h | h
    · exact ha e h
    · exact List.eq_of_mem_replicate h ▸ hx
  · exact hb e h

/-! ### the run of the examples of section (g): two heating days

Quota 1 s, 8 periods, reset at midnight, eco entered at 23:59:50, every handler at most 1 ms late.  Day 1 (whole): `heat`
arrives 1 s after a poll of the first eco_waiting, three polls of heating_running, `heating_delay`, the delay expires; the
quota is used up, so after the compute delay the pump is stopped and eco_waiting is polled 8632 times until the reset.
Day 2: the same interlude in the first eco_waiting. -/

def hdParams : Params := ⟨1, 8, 0, 1, 0, 86390000000, 0⟩
def hdPolls : List Ev := [.tick 300 0 0, .tick 1000 0 0, .tick 0 0 0]
def hdSeg1 : Seg := ⟨List.replicate 5 (.tick 500 100 100), 1000000, hdPolls, 2000000, 700, 0, 0⟩
def hdA : List Ev := [.tick 0 0 0, .tick 0 0 0]
def hdB : List Ev := [.tick 0 0 0, .tick 0 0 0, .tick 0 0 0]
def hdSeg2 : Seg := ⟨hdA ++ List.replicate 8630 (.tick 0 0 0) ++ hdB, 1000000, hdPolls, 2000000, 700, 0, 0⟩
def hdPost : List Ev := [.tick 10 20 30, .tick 1 2 3]
def hdStart : Loop := (Loop.start 1000 hdParams).1
/-- eco_waiting after the first interlude, first poll done -/
def hdBase : Loop := ecoFinal 1000 hdStart (hdSeg1.evs ++ hdA)
/-- 8630 polls later (23:59:58 of day 1) -/
def hdMid : Loop :=
  lateSt hdBase (hdBase.now + (8630 : Nat) * EcoConfig.pollDelayUs) (hdBase.eco.current.duration + (8630 : Nat) * EcoConfig.pollDelayUs)
    (saveAfter hdBase.eco.filtration.duration 8630 hdBase.now hdBase.eco.lastSave hdBase.saved).1
    (saveAfter hdBase.eco.filtration.duration 8630 hdBase.now hdBase.eco.lastSave hdBase.saved).2

theorem hd_mid : ecoFinal 1000 hdBase (List.replicate 8630 (.tick 0 0 0)) = hdMid := by
  have h := wait_polls 1000 hdBase (by decide) (by decide) 8630 hdBase.now hdBase.eco.current.duration
    hdBase.eco.lastSave hdBase.saved (by decide) (Or.inl (by decide))
  rw [lateSt_self hdBase (by decide) (by decide) (by decide)] at h
  exact h

theorem hd_pre2 : ecoFinal 1000 (ecoFinal 1000 hdStart hdSeg1.evs) hdSeg2.pre = ecoFinal 1000 hdMid hdB := by
  have e : hdSeg2.pre = hdA ++ List.replicate 8630 (.tick 0 0 0) ++ hdB := rfl
  have e2 : ecoFinal 1000 hdStart (hdSeg1.evs ++ hdA) = hdBase := rfl
  rw [e, ecoFinal_append, ecoFinal_append, ← ecoFinal_append 1000 hdStart, e2, hd_mid]

theorem hd_evs2 : ecoFinal 1000 (ecoFinal 1000 hdStart hdSeg1.evs) hdSeg2.evs
    = ecoFinal 1000 (ecoFinal 1000 hdMid hdB) hdSeg2.inter := by
  show ecoFinal 1000 _ (hdSeg2.pre ++ hdSeg2.inter) = _
  rw [ecoFinal_append, hd_pre2]

/-- the side conditions of `C10_quota_heating_days_partial` hold on this run -/
theorem hd_segsOK : SegsOK 1000 hdStart [hdSeg1, hdSeg2] := by
  refine ⟨by decide, ⟨?_, ?_, ?_, ?_, ?_⟩, trivial⟩
  · exact forall_mem_replicate_mid hdA hdB 8630 _ (by decide) (by decide) (by decide)
  · rw [hd_pre2]; decide
  · rw [hd_pre2]; decide
  · rw [hd_pre2]; decide
  · rw [hd_pre2, hd_evs2]; decide

theorem hd_final : ecoFinal 1000 hdStart (segsEvs [hdSeg1, hdSeg2] ++ hdPost)
    = ecoFinal 1000 (ecoFinal 1000 (ecoFinal 1000 hdMid hdB) hdSeg2.inter) hdPost := by
  have e : segsEvs [hdSeg1, hdSeg2] = hdSeg1.evs ++ hdSeg2.evs := by simp [segsEvs]
  rw [e, ecoFinal_append, ecoFinal_append, hd_evs2]

/-! ### the run of the example with two interludes in one day: quota 7 h, 8 periods; the first interlude as in `hdSeg1`,
then `eco_compute`, eco_waiting, its first poll, `heat` again 3 s later -/

def miParams : Params := ⟨25200, 8, 0, 1, 0, 86390000000, 0⟩
def miSeg1 : Seg := ⟨List.replicate 5 (.tick 500 100 100), 1000000, hdPolls, 2000000, 700, 0, 0⟩
def miSeg2 : Seg := ⟨[.tick 200 0 0, .tick 300 0 0], 3000000, hdPolls, 1000000, 0, 0, 0⟩

/-! ### the run of `C10_quota_monitor_upper_three_interludes_counterexample`: quota 600 s, one period, every handler on
time; eco entered at 23:59:50; three interludes (20 s of heating + the 60 s delay each) at the beginning of the whole day;
the pause of the plan made after the third one is polled 8561 times, then the pump runs until the reset -/

def ceParams : Params := ⟨600, 1, 0, 1, 0, 86390000000, 0⟩
def cePolls : List Ev := [.tick 0 0 0, .tick 0 0 0, .tick 0 0 0]
def ceSeg1 : Seg := ⟨List.replicate 5 (.tick 0 0 0), 1000000, cePolls, 2000000, 0, 0, 0⟩
def ceSegK : Seg := ⟨[.tick 0 0 0, .tick 0 0 0], 1000000, cePolls, 2000000, 0, 0, 0⟩
def ceSegs : List Seg := [ceSeg1, ceSegK, ceSegK]
def ceA : List Ev := [.tick 0 0 0, .tick 0 0 0]
def cePost : List Ev := ceA ++ List.replicate 8559 (.tick 0 0 0) ++ List.replicate 55 (.tick 0 0 0)
def ceStart : Loop := (Loop.start 0 ceParams).1
def ceBase : Loop := ecoFinal 0 ceStart (segsEvs ceSegs ++ ceA)
def ceMid : Loop :=
  lateSt ceBase (ceBase.now + (8559 : Nat) * EcoConfig.pollDelayUs) (ceBase.eco.current.duration + (8559 : Nat) * EcoConfig.pollDelayUs)
    (saveAfter ceBase.eco.filtration.duration 8559 ceBase.now ceBase.eco.lastSave ceBase.saved).1
    (saveAfter ceBase.eco.filtration.duration 8559 ceBase.now ceBase.eco.lastSave ceBase.saved).2

theorem ce_mid : ecoFinal 0 ceBase (List.replicate 8559 (.tick 0 0 0)) = ceMid := by
  have h := wait_polls 0 ceBase (by decide) (by decide) 8559 ceBase.now ceBase.eco.current.duration
    ceBase.eco.lastSave ceBase.saved (by decide) (by decide)
  rw [lateSt_self ceBase (by decide) (by decide) (by decide)] at h
  exact h

theorem ce_final : ecoFinal 0 ceStart (segsEvs ceSegs ++ cePost) = ecoFinal 0 ceMid (List.replicate 55 (.tick 0 0 0)) := by
  have e : ecoFinal 0 ceStart (segsEvs ceSegs ++ ceA) = ceBase := rfl
  rw [cePost, ← List.append_assoc, ← List.append_assoc, ecoFinal_append, ecoFinal_append, e, ce_mid]

theorem ce_post_ok : ∀ e ∈ cePost, TickOK 0 e :=
  forall_mem_replicate_mid ceA _ 8559 _ (by decide) (by decide) (by decide)

end Poupool.Eco
