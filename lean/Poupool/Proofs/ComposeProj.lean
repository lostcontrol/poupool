import Poupool.Model.Compose
import Poupool.Proofs.Outcomes
/-!
  Erasing the effects of the instrumented interpreter (`evalCondE`, `execE`, … `stepE` of `Model/Compose.lean`) gives
  the plain one (`evalCond`, `exec`, … `step`), outcome for outcome in both directions: a `Bisim`.
-/
namespace Poupool.Compose

abbrev Er (a : α × St) (x : α × St × List Eff) : Prop := a = (x.1, x.2.1)

abbrev Fst (a : α) (x : α × List Eff) : Prop := a = x.1

theorem evalCondE_bisim (l : List Int) (c : Cond) (s : St) : Bisim Er (evalCond l c s) (evalCondE l c s) := by
  induction c generalizing s with
  | nondet | ask => exact .cons rfl (.single rfl)
  | tt | ff | leafIn => exact .single rfl
  | cmp op a b =>
      have two : Bisim Er [(true, s), (false, s)] [(true, s, []), (false, s, [])] := .cons rfl (.single rfl)
      simp only [evalCond, evalCondE]
      cases evalExpr l s.vars a <;> cases evalExpr l s.vars b
      · exact two
      · exact two
      · exact two
      · exact .single rfl
  | not c ih => exact (ih s).map fun _ _ r => by rw [r]
  | and a b iha ihb =>
      refine (iha s).flatMap ?_
      rintro _ ⟨b1, s1, e1⟩ rfl
      cases b1
      · exact .single rfl
      · exact (ihb s1).map_right fun _ _ r => r
  | or a b iha ihb =>
      refine (iha s).flatMap ?_
      rintro _ ⟨b1, s1, e1⟩ rfl
      cases b1
      · exact (ihb s1).map_right fun _ _ r => r
      · exact .single rfl

theorem execE_bisim (p : Stmt) (l : List Int) (s : St) : Bisim Er (exec p l s) (execE p l s) := by
  induction p generalizing l s with
  | skip | delay | cancel | selfTell | ret | stopRepeat | emit | «opaque» => exact .single rfl
  | set v x =>
      simp only [exec, execE]
      cases evalExpr l s.vars x <;> exact .single rfl
  | seq a b iha ihb =>
      refine ((iha l s).congr (fun _ => mem_dedupFS) fun _ => .rfl).flatMap ?_
      rintro _ ⟨f1, s1, e1⟩ rfl
      cases f1
      · exact (ihb l s1).map_right fun _ _ r => r
      · exact .single rfl
      · exact .single rfl
  | ite c t e iht ihe =>
      refine (evalCondE_bisim l c s).flatMap ?_
      rintro _ ⟨b, s1, e1⟩ rfl
      cases b
      · exact (ihe l s1).map_right fun _ _ r => r
      · exact (iht l s1).map_right fun _ _ r => r
  | choose a b iha ihb => exact (iha l s).append (ihb l s)
  | forSetting loc vals body ih => exact (Bisim.refl (l := vals)).flatMap fun v _ r => r ▸ ih (l ++ [v]) s
  | doRepeat body poll ih =>
      refine (ih l s).map ?_
      rintro _ ⟨f1, s1, e1⟩ rfl
      cases f1 <;> rfl
  | scope body ih =>
      refine (ih l s).map ?_
      rintro _ ⟨f1, s1, e1⟩ rfl
      cases f1 <;> rfl

theorem runSeqE_bisim (cbs : List Stmt) (ids : List Nat) (s : St) : Bisim Fst (runSeq cbs ids s) (runSeqE cbs ids s) := by
  induction ids generalizing s with
  | nil => exact .single rfl
  | cons i is ih =>
      refine Bisim.congr ((execE_bisim _ [] s).flatMap ?_) (fun _ => mem_runSeq_cons) fun _ => .rfl
      rintro _ ⟨f1, s1, e1⟩ rfl
      exact (ih s1).map_right fun _ _ r => r

theorem fireE_bisim (D : ActorDesc) (t : MsgId) (s : St) : Bisim Fst (fire D t s) (fireE D t s) := by
  refine Bisim.append ?_ ((Bisim.refl).flatMap fun r _ e => e ▸ (runSeqE_bisim _ r.pre s).flatMap fun s1 y h => ?_)
  · split
    · exact .nil
    · exact .single rfl
  · obtain ⟨s1', e1⟩ := y
    cases h
    exact (runSeqE_bisim _ r.post _).map_right fun _ _ r => r

theorem callE_bisim (D : ActorDesc) (m : MsgId) (s : St) : Bisim Fst (call D m s) (callE D m s) := by
  simp only [call, callE]
  split
  · exact fireE_bisim D m s
  · split
    · rename_i h
      simp only [h]
      exact (execE_bisim _ [] s).map fun _ _ r => by rw [r]
    · rename_i h
      simp only [h]
      exact .single rfl

theorem stepE_bisim (D : ActorDesc) (s : St) (m : Msg) : Bisim Fst (step D s m) (stepE D s m) := by
  cases m with
  | plain m => exact (callE_bisim D m _).map fun _ _ r => by rw [r]
  | delayed m =>
      simp only [step, stepE]
      split
      · exact (callE_bisim D m _).map fun _ _ r => by rw [r]
      · exact .single rfl

theorem stepE_proj (D : ActorDesc) (s : St) (m : Msg) (s' : St) :
    s' ∈ step D s m ↔ ∃ e, (s', e) ∈ stepE D s m := (stepE_bisim D s m).mem_iff s'

theorem stepE_sound {D : ActorDesc} {s : St} {m : Msg} {s' : St} {e : List Eff}
    (h : (s', e) ∈ stepE D s m) : s' ∈ step D s m := (stepE_proj D s m s').2 ⟨e, h⟩

theorem stepE_complete {D : ActorDesc} {s : St} {m : Msg} {s' : St}
    (h : s' ∈ step D s m) : ∃ e, (s', e) ∈ stepE D s m := (stepE_proj D s m s').1 h

end Poupool.Compose
