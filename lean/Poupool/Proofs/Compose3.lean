import Poupool.Model.Compose3
import Poupool.Proofs.ComposeRun
/-!
  The chain  A → B → C  (`Model/Compose3.lean`) projects onto the two pair systems of `Model/Compose.lean`:

  * `treach_projAB` – every reachable triple state, seen as (A, B, B's inbox, A's pending effects), is a reachable
    state of the pair system `SAB`;
  * `treach_projBC` – seen as (B, C, C's inbox, B's pending effects), it is a reachable state of `SBC`.

  Steps of the third actor and of its inbox are stutters of the pair; B's service of a message is `deliver` in `SAB`
  and `mBegin` in `SBC` at once (`stepE_sound`).  Hence every theorem about `CReach SAB` and about `CReach SBC` holds
  of the same triple state; `chain_halted_when_served` chains `halted_when_served` through B.

  `run3_sound`: the executable scheduler only produces triple steps.
-/
namespace Poupool.Compose3
open Poupool.Compose

theorem projAB_tinit (S : TSpec) : projAB (tinit S) = cinit S.SAB := by
  simp only [projAB, tinit, cinit, S.agree]

theorem projBC_tinit (S : TSpec) : projBC (tinit S) = cinit S.SBC := rfl

theorem treach_projAB (S : TSpec) {g : TSt} (h : TReach S g) : CReach S.SAB (projAB g) := by
  induction h with
  | init => rw [projAB_tinit]; exact CReach.init
  | @step g g' _ hs ih =>
      cases hs with
      | aBegin msg a' effs hidle hmsg h => exact ih.step (CStep.mBegin (projAB g) msg a' effs hidle hmsg h)
      | aTell t rest msg h ht => exact ih.step (CStep.mTell (projAB g) t rest msg h ht)
      | aEmit t rest h ht => exact ih.step (CStep.mEmit (projAB g) t rest h ht)
      | aAsk ans t f rest h hq => exact ih.step (CStep.mAsk (projAB g) ans t f rest h hq)
      | otherB m hm => exact ih.step (CStep.other (projAB g) m (S.agree ▸ hm))
      | bServe e rest b' effs h hidle hm hs =>
          -- B's handler, seen from `SAB`, is a delivery: forget its effects
          refine ih.step (CStep.deliver (projAB g) e rest b' h (S.agree ▸ hm) (guard_imp ?_ And.left hs))
          rw [S.agree]
          exact stepE_sound
      | bTell | bEmit | bAsk | otherC | cServe => exact ih

theorem treach_projBC (S : TSpec) {g : TSt} (h : TReach S g) : CReach S.SBC (projBC g) := by
  induction h with
  | init => exact CReach.init
  | @step g g' _ hs ih =>
      cases hs with
      | aBegin | aTell | aEmit | aAsk | otherB => exact ih
      | bServe e rest b' effs h hidle hm hs =>
          rcases guard_cases hs with ⟨hs, _⟩ | ⟨_, _, _, rfl, rfl⟩
          · exact ih.step (CStep.mBegin (projBC g) e.2 b' effs hidle hm hs)
          · -- refused: B does nothing and `todoB` was empty already, a stutter of `SBC`
            exact hidle ▸ ih
      | bTell t rest msg h ht => exact ih.step (CStep.mTell (projBC g) t rest msg h ht)
      | bEmit t rest h ht => exact ih.step (CStep.mEmit (projBC g) t rest h ht)
      | bAsk ans t f rest h hq => exact ih.step (CStep.mAsk (projBC g) ans t f rest h hq)
      | otherC m hm => exact ih.step (CStep.other (projBC g) m hm)
      | cServe e rest c' h hm hs => exact ih.step (CStep.deliver (projBC g) e rest c' h hm hs)

theorem treach_a (S : TSpec) {g : TSt} (h : TReach S g) : Reach S.DA g.a := creach_m S.SAB (treach_projAB S h)

theorem treach_b (S : TSpec) {g : TSt} (h : TReach S g) : Reach S.DB g.b := creach_m S.SBC (treach_projBC S h)

theorem treach_c (S : TSpec) {g : TSt} (h : TReach S g) : Reach S.DC g.c := creach_x S.SBC (treach_projBC S h)

/-- **Chain theorem.** In one execution of A → B → C, for every interleaving: A and B between two handlers, A's
    ghost variable says "B halted", none of A's messages waits in B's inbox, none of B's messages waits in C's
    inbox, and (the link, an invariant of B's own model) whenever B is halted its ghost variable says "C halted"
    ⇒ B is halted and C is halted. -/
theorem chain_halted_when_served (S : TSpec) (mAB : MasterOK S.SAB) (sAB : SlaveOK S.SAB)
    (mBC : MasterOK S.SBC) (sBC : SlaveOK S.SBC)
    (link : ∀ b, Reach S.DB b → S.SAB.isHalt b = true → S.SBC.isG (getNth b.vars S.SBC.v) = true)
    {g : TSt} (h : TReach S g) (hA : g.todoA = []) (hB : g.todoB = [])
    (hg : S.SAB.isG (getNth g.a.vars S.SAB.v) = true) (hsB : noMaster g.inboxB) (hsC : noMaster g.inboxC) :
    S.SAB.isHalt g.b = true ∧ S.SBC.isHalt g.c = true := by
  have hb : S.SAB.isHalt g.b = true := halted_when_served S.SAB mAB sAB (treach_projAB S h) hA hg hsB
  exact ⟨hb, halted_when_served S.SBC mBC sBC (treach_projBC S h) hB (link g.b (treach_b S h) hb) hsC⟩

/-! ## the executable scheduler only produces triple steps

  `projAB (liftAB g p) = p` and `liftAB (liftAB g p) p' = liftAB g p'` hold by unfolding, so the lemmas of
  `Proofs/ComposeRun.lean` about `eff1` / `deliver1` / `drainN` / `serveN` on a projection apply with the motive
  `fun p => TStep S g (liftAB g p)` resp. `fun p => TReach S (liftAB g p)` (same for `BC`). -/

theorem effA_sound {S : TSpec} {g : TSt} {p : CSt} (h : eff1 S.SAB (projAB g) = some p) : TStep S g (liftAB g p) :=
  eff1_elim (P := fun p => TStep S g (liftAB g p)) h (TStep.aTell g) (TStep.aEmit g) (TStep.aAsk g)

theorem effB_sound {S : TSpec} {g : TSt} {p : CSt} (h : eff1 S.SBC (projBC g) = some p) : TStep S g (liftBC g p) :=
  eff1_elim (P := fun p => TStep S g (liftBC g p)) h (TStep.bTell g) (TStep.bEmit g) (TStep.bAsk g)

theorem deliverC_sound {S : TSpec} {pick : St → Bool} {g : TSt} {p : CSt}
    (h : deliver1 S.SBC pick (projBC g) = some p) : TStep S g (liftBC g p) := by
  obtain ⟨e, rest, c', hin, hm, hs, rfl⟩ := deliver1_elim h
  exact TStep.cServe g e rest c' hin hm hs

theorem serveB1_sound {S : TSpec} {pick : St × List Eff → Bool} {g g' : TSt} (h : serveB1 S pick g = some g') :
    TStep S g g' := by
  unfold serveB1 at h
  split at h
  · cases h
  · rename_i e rest hin
    obtain ⟨h0, h⟩ := Option.ite_none_right_eq_some.1 h
    obtain ⟨hidleB, hm⟩ : g.todoB = [] ∧ e.2 ∈ allMsgs S.DB := by simpa using h0
    by_cases hc : e.1 = false ∧ S.SAB.isStart e.2 = true
    · rw [if_pos (by simpa using hc)] at h
      obtain ⟨hidle, h⟩ := Option.ite_none_right_eq_some.1 h
      have hidle := List.isEmpty_iff.1 hidle
      split at h
      · rename_i hal
        obtain ⟨⟨b', effs⟩, hx, rfl⟩ := find?_map_eq_some h
        exact TStep.bServe g e rest b' effs hin hidleB hm ((if_pos hc).mpr ⟨hidle, (if_pos hal).mpr hx⟩)
      · rename_i hal
        cases h
        -- refused: B and its (empty) pending effects stay
        exact hidleB ▸ TStep.bServe (S := S) g e rest g.b [] hin hidleB hm
          ((if_pos hc).mpr ⟨hidle, (if_neg hal).mpr ⟨rfl, rfl⟩⟩)
    · rw [if_neg (by simpa using hc)] at h
      obtain ⟨⟨b', effs⟩, hx, rfl⟩ := find?_map_eq_some h
      exact TStep.bServe g e rest b' effs hin hidleB hm ((if_neg hc).mpr hx)

theorem act3_reach {S : TSpec} {g g' : TSt} {a : Act3} (hr : TReach S g) (h : act3 S g a = some g') :
    TReach S g' := by
  cases a with
  | a msg pick =>
      obtain ⟨p, hp, rfl⟩ := Option.map_eq_some_iff.1 h
      obtain ⟨hc, hp⟩ := Option.ite_none_right_eq_some.1 hp
      obtain ⟨⟨a', effs⟩, hf, rfl⟩ := find?_map_eq_some hp
      simp only [Bool.and_eq_true, List.isEmpty_iff, List.contains_iff_mem] at hc
      exact hr.step (TStep.aBegin g msg a' effs hc.1 hc.2 hf)
  | effA =>
      obtain ⟨p, he, rfl⟩ := Option.map_eq_some_iff.1 h
      exact hr.step (effA_sound he)
  | drainA =>
      obtain ⟨p, he, rfl⟩ := Option.map_eq_some_iff.1 h
      exact drainN_induct (P := fun p => TReach S (liftAB g p)) (fun _ _ hr h => hr.step (effA_sound h))
        _ (g := projAB g) hr he
  | otherB m =>
      obtain ⟨hc, h⟩ := Option.ite_none_right_eq_some.1 h
      cases h
      exact hr.step (TStep.otherB g m (List.contains_iff_mem.1 hc))
  | serveB pick => exact hr.step (serveB1_sound h)
  | effB =>
      obtain ⟨p, he, rfl⟩ := Option.map_eq_some_iff.1 h
      exact hr.step (effB_sound he)
  | drainB =>
      obtain ⟨p, he, rfl⟩ := Option.map_eq_some_iff.1 h
      exact drainN_induct (P := fun p => TReach S (liftBC g p)) (fun _ _ hr h => hr.step (effB_sound h))
        _ (g := projBC g) hr he
  | otherC m =>
      obtain ⟨hc, h⟩ := Option.ite_none_right_eq_some.1 h
      cases h
      exact hr.step (TStep.otherC g m (List.contains_iff_mem.1 hc))
  | deliverC pick =>
      obtain ⟨p, he, rfl⟩ := Option.map_eq_some_iff.1 h
      exact hr.step (deliverC_sound he)
  | serveC pick =>
      obtain ⟨p, he, rfl⟩ := Option.map_eq_some_iff.1 h
      exact serveN_induct (P := fun p => TReach S (liftBC g p)) (fun _ _ hr h => hr.step (deliverC_sound h))
        _ (g := projBC g) hr he

theorem run3_sound (S : TSpec) (as : List Act3) {g g' : TSt} (hr : TReach S g) (h : run3 S as g = some g') :
    TReach S g' := by
  fun_induction run3 S as g with
  | case1 =>
      cases h
      exact hr
  | case2 _ _ _ _ ha ih => exact ih (act3_reach hr ha) h
  | case3 => cases h

end Poupool.Compose3
