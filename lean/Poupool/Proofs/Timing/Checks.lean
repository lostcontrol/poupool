import Poupool.Generated.ActorCerts
import Poupool.Proofs.Timed
/-! The timed configurations, certificates and phase lists of `Properties/Timing.lean`, and the checks of every actor, evaluated
    by the kernel, one theorem per actor: the kernel remembers the value of a closed term, so inside one evaluation the sentinel
    runs are evaluated once for all the phases and bundles of the actor.

    Each `<actor>_checks lag` is the evaluation at `lag := 0`: the checks read `C.D`, `C.X` and `C.durAt` only, so their
    statements at `lag` and at `0` are the same up to unfolding.  A check that reads `C.lag` cannot be transported this way. -/
namespace Poupool.Timing
open Poupool.Gen Poupool.Timed

def filtration (lag : Nat) : TCfg := { D := filtrationTimerDesc, X := filtrationTimerDesc.nMsgs, durAt := filtrationDurAt, lag := lag }
def heating (lag : Nat) : TCfg := { D := heatingTimerDesc, X := heatingTimerDesc.nMsgs, durAt := heatingDurAt, lag := lag }
def disinfection (lag : Nat) : TCfg := { D := disinfectionTimerDesc, X := disinfectionTimerDesc.nMsgs, durAt := disinfectionDurAt, lag := lag }
def swim (lag : Nat) : TCfg := { D := swimTimerDesc, X := swimTimerDesc.nMsgs, durAt := swimDurAt, lag := lag }
def tank (lag : Nat) : TCfg := { D := tankTimerDesc, X := tankTimerDesc.nMsgs, durAt := tankDurAt, lag := lag }

theorem filtration_cert (lag : Nat) : Cert (filtration lag) filtrationTimerReach :=
  ⟨(by decide +kernel : fresh filtrationTimerDesc filtrationTimerDesc.nMsgs = true), Cert.filtrationTimer_closed,
   (by decide +kernel : armedOK filtrationTimerDesc filtrationTimerReach = true)⟩
theorem heating_cert (lag : Nat) : Cert (heating lag) heatingTimerReach :=
  ⟨(by decide +kernel : fresh heatingTimerDesc heatingTimerDesc.nMsgs = true), Cert.heatingTimer_closed,
   (by decide +kernel : armedOK heatingTimerDesc heatingTimerReach = true)⟩
theorem disinfection_cert (lag : Nat) : Cert (disinfection lag) disinfectionTimerReach :=
  ⟨(by decide +kernel : fresh disinfectionTimerDesc disinfectionTimerDesc.nMsgs = true), Cert.disinfectionTimer_closed,
   (by decide +kernel : armedOK disinfectionTimerDesc disinfectionTimerReach = true)⟩
theorem swim_cert (lag : Nat) : Cert (swim lag) swimTimerReach :=
  ⟨(by decide +kernel : fresh swimTimerDesc swimTimerDesc.nMsgs = true), Cert.swimTimer_closed,
   (by decide +kernel : armedOK swimTimerDesc swimTimerReach = true)⟩
theorem tank_cert (lag : Nat) : Cert (tank lag) tankTimerReach :=
  ⟨(by decide +kernel : fresh tankTimerDesc tankTimerDesc.nMsgs = true), Cert.tankTimer_closed,
   (by decide +kernel : armedOK tankTimerDesc tankTimerReach = true)⟩

section
open Filtration

/-- time-limited phases with a configured (config.ini) duration -/
def filtrationConst : List (Phase × Nat) := [
  ({ P := [leaf_heating_delay_none], t := [m_heating_delayed], restart := [m_heating_delay], escape := [m_halt] }, Cfg.heating_delay_to_eco),
  ({ P := [leaf_heating_delay_standby], t := [m_heating_delayed], restart := [], escape := [m_halt, m_heating_delay] }, Cfg.heating_delay_to_open),
  ({ P := [leaf_heating_delay_overflow], t := [m_heating_delayed], restart := [], escape := [m_halt, m_heating_delay] }, Cfg.heating_delay_to_open),
  ({ P := [leaf_wintering_stir], t := [m_wintering_waiting], restart := [], escape := [m_halt] }, Cfg.wintering_duration),
  ({ P := [leaf_eco_compute], t := [m_eco_normal, m_eco_waiting], restart := [], escape := [] }, 10)]

/-- time-limited phases whose duration is a setting -/
def filtrationSetting : List (Phase × String) := [
  ({ P := [leaf_standby_boost], t := [m_standby], restart := [], escape := [] }, "boost_duration"),
  ({ P := [leaf_overflow_boost], t := [m_overflow], restart := [], escape := [] }, "boost_duration"),
  ({ P := [leaf_wash_backwash], t := [m_rinse], restart := [], escape := [] }, "backwash_backwash_duration"),
  ({ P := [leaf_wash_rinse], t := [m_eco], restart := [], escape := [] }, "backwash_rinse_duration")]

/-- polling phases with their period (cover travel: the poll or the 2 s settling timeout) -/
def filtrationPolls : List (Phase × Nat) := [
  ({ P := [leaf_eco_normal], t := [m_do_repeat_eco_normal], restart := [], escape := [] }, 20),
  ({ P := [leaf_eco_tank], t := [m_do_repeat_eco_tank], restart := [], escape := [] }, 20),
  ({ P := [leaf_eco_waiting], t := [m_do_repeat_eco_waiting], restart := [], escape := [] }, 20),
  ({ P := [leaf_heating_running], t := [m_do_repeat_heating_running], restart := [], escape := [] }, 20),
  ({ P := [leaf_standby_normal], t := [m_do_repeat_standby_normal], restart := [], escape := [] }, 20),
  ({ P := [leaf_overflow_normal], t := [m_do_repeat_overflow_normal], restart := [], escape := [] }, 20),
  ({ P := [leaf_comfort], t := [m_do_repeat_comfort], restart := [], escape := [] }, 20),
  ({ P := [leaf_wintering_waiting], t := [m_do_repeat_wintering_waiting], restart := [], escape := [] }, 240),
  ({ P := [leaf_opening_standby, leaf_opening_overflow], t := [m_do_repeat_opening, m_opened], restart := [], escape := [] }, 10),
  ({ P := [leaf_closing], t := [m_do_repeat_closing, m_closed], restart := [], escape := [] }, 10)]

end

def heatingConst : List (Phase × Nat) := [
  ({ P := [Heating.leaf_recovering], t := [Heating.m_recover_done], restart := [], escape := [Heating.m_halt] }, Cfg.heating_recover_period)]
def heatingPolls : List (Phase × Nat) := [
  ({ P := [Heating.leaf_waiting], t := [Heating.m_do_repeat_waiting], restart := [], escape := [] }, 20),
  ({ P := [Heating.leaf_heating], t := [Heating.m_do_repeat_heating], restart := [], escape := [] }, 20)]
def disinfectionConst : List (Phase × Nat) := [
  ({ P := [Disinfection.leaf_waiting], t := [Disinfection.m_run], restart := [], escape := [] }, Cfg.disinfection_start_delay),
  ({ P := [Disinfection.leaf_running_treating], t := [Disinfection.m_adjust], restart := [], escape := [] }, Cfg.disinfection_waiting_delay)]
def swimConst : List (Phase × Nat) := [
  ({ P := [Swim.leaf_wintering_stir], t := [Swim.m_wintering_waiting], restart := [], escape := [Swim.m_halt] }, Cfg.wintering_swim_duration)]
def swimPolls : List (Phase × Nat) := [
  ({ P := [Swim.leaf_timed], t := [Swim.m_do_repeat_timed], restart := [], escape := [] }, 2),
  ({ P := [Swim.leaf_continuous], t := [Swim.m_do_repeat_continuous], restart := [], escape := [] }, 2),
  ({ P := [Swim.leaf_wintering_waiting], t := [Swim.m_do_repeat_wintering_waiting], restart := [], escape := [] }, 240)]
def tankPolls : List (Phase × Nat) := [
  ({ P := [Tank.leaf_fill], t := [Tank.m_do_repeat_fill], restart := [], escape := [] }, 10),
  ({ P := [Tank.leaf_low], t := [Tank.m_do_repeat_low], restart := [], escape := [] }, 10),
  ({ P := [Tank.leaf_normal], t := [Tank.m_do_repeat_normal], restart := [], escape := [] }, 20),
  ({ P := [Tank.leaf_high], t := [Tank.m_do_repeat_high], restart := [], escape := [] }, 20)]

theorem filtration_checks (lag : Nat) :
    Timed (filtration lag) filtrationTimerReach (durLe (filtration lag)) filtrationConst ∧
    Timed (filtration lag) filtrationTimerReach (durIs (filtration lag)) filtrationSetting ∧
    Minimum (filtration lag) filtrationTimerReach (filtrationConst.take 4) ∧
    Polls (filtration lag) filtrationTimerReach filtrationPolls ∧
    Limited (filtration lag) filtrationTimerReach [filtrationPolls[7]] :=
  (by decide +kernel :
    Timed (filtration 0) filtrationTimerReach (durLe (filtration 0)) filtrationConst ∧
    Timed (filtration 0) filtrationTimerReach (durIs (filtration 0)) filtrationSetting ∧
    Minimum (filtration 0) filtrationTimerReach (filtrationConst.take 4) ∧
    Polls (filtration 0) filtrationTimerReach filtrationPolls ∧
    Limited (filtration 0) filtrationTimerReach [filtrationPolls[7]])

theorem heating_checks (lag : Nat) :
    Timed (heating lag) heatingTimerReach (durLe (heating lag)) heatingConst ∧
    Minimum (heating lag) heatingTimerReach heatingConst ∧ Polls (heating lag) heatingTimerReach heatingPolls :=
  (by decide +kernel :
    Timed (heating 0) heatingTimerReach (durLe (heating 0)) heatingConst ∧
    Minimum (heating 0) heatingTimerReach heatingConst ∧ Polls (heating 0) heatingTimerReach heatingPolls)

theorem disinfection_checks (lag : Nat) :
    Timed (disinfection lag) disinfectionTimerReach (durLe (disinfection lag)) disinfectionConst :=
  (by decide +kernel : Timed (disinfection 0) disinfectionTimerReach (durLe (disinfection 0)) disinfectionConst)

theorem swim_checks (lag : Nat) :
    Timed (swim lag) swimTimerReach (durLe (swim lag)) swimConst ∧ Minimum (swim lag) swimTimerReach swimConst ∧
    Polls (swim lag) swimTimerReach swimPolls ∧ Limited (swim lag) swimTimerReach [swimPolls[0], swimPolls[2]] :=
  (by decide +kernel :
    Timed (swim 0) swimTimerReach (durLe (swim 0)) swimConst ∧ Minimum (swim 0) swimTimerReach swimConst ∧
    Polls (swim 0) swimTimerReach swimPolls ∧ Limited (swim 0) swimTimerReach [swimPolls[0], swimPolls[2]])

theorem tank_checks (lag : Nat) : Polls (tank lag) tankTimerReach tankPolls ∧ Limited (tank lag) tankTimerReach (tankPolls.take 2) :=
  (by decide +kernel : Polls (tank 0) tankTimerReach tankPolls ∧ Limited (tank 0) tankTimerReach (tankPolls.take 2))

end Poupool.Timing
