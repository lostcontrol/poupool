import Poupool.Proofs.Sentinel
import Poupool.Proofs.ActorLib
import Poupool.Proofs.Closure
/-!
  The generic timing theorems.  A timed step either leaves the delayed call alone (`Kept`) or arms it at its own instant
  with a delay the table allows (`Armed`); each check over the certificate says which of the two a step of a given kind is;
  the theorems follow from that and the scheduling assumption (`deadline`).
-/
namespace Poupool.Timed

/-! ## One timed step -/

def Kept (ts ts' : TSt) : Prop :=
  ts'.s.armed = ts.s.armed ∧ ts'.armedAt = ts.armedAt ∧ ts'.armedDur = ts.armedDur

/-- the step armed (or cancelled) the delayed call at its own instant, with a delay the table allows -/
def Armed (C : TCfg) (e : TEv) (ts' : TSt) : Prop :=
  ts'.armedAt = ts'.now ∧ ∃ any, allowed C e.settings any ts'.s ts'.armedDur

theorem TStep.plain_inv {C : TCfg} {ts ts' : TSt} {m : MsgId} {σ : String → Nat} (h : TStep C ts (.plain m σ) ts') :
    m ∈ C.D.plainMsgs ∧ ts.now ≤ ts'.now ∧ (ts.s.armed.isSome = true → ts'.now ≤ ts.armedAt + ts.armedDur + C.lag) ∧
    ∃ s0 ∈ step C.D { ts.s with armed := some C.X } (.plain m), ts'.s = unsent C.X ts.s.armed s0 ∧
      if s0.armed = some C.X then Kept ts ts' else Armed C (.plain m σ) ts' := by
  cases h with
  | plain _ τ d _ any hm hnow hdl hmem hall =>
      obtain ⟨s0, hs0, rfl⟩ := List.mem_map.mp hmem
      by_cases hx : s0.armed = some C.X <;> simp only [hx, ↓reduceIte] at hall ⊢
      · refine ⟨hm, hnow, hdl, s0, hs0, by simp [unsent, hx], ?_⟩
        rw [if_pos hx]
        exact ⟨rfl, rfl, rfl⟩
      · refine ⟨hm, hnow, hdl, s0, hs0, by simp [unsent, hx], ?_⟩
        rw [if_neg hx]
        exact ⟨rfl, any, hall trivial⟩

theorem TStep.fire_inv {C : TCfg} {ts ts' : TSt} {σ : String → Nat} (h : TStep C ts (.fire σ) ts') :
    ts.now ≤ ts'.now ∧ ts.armedAt + ts.armedDur ≤ ts'.now ∧
    (∃ m, ts.s.armed = some m ∧ ts'.s ∈ step C.D ts.s (.delayed m)) ∧ Armed C (.fire σ) ts' := by
  cases h with
  | fire τ d _ any hnow hdue _ hmem hall =>
      unfold tfire at hmem
      split at hmem
      · cases hmem
      · obtain ⟨s', hs', rfl⟩ := List.mem_map.mp hmem
        exact ⟨hnow, hdue, ⟨_, ‹_›, hs'⟩, rfl, any, hall⟩

theorem TStep.now_le {C : TCfg} {ts ts' : TSt} {e : TEv} (h : TStep C ts e ts') : ts.now ≤ ts'.now := by
  cases e
  · exact h.plain_inv.2.1
  · exact h.fire_inv.1

theorem TStep.kept_or_armed {C : TCfg} {ts ts' : TSt} {e : TEv} (h : TStep C ts e ts') :
    (Kept ts ts' ∧ (ts.s.armed.isSome = true → ts'.now ≤ ts.armedAt + ts.armedDur + C.lag)) ∨ Armed C e ts' := by
  cases e
  · obtain ⟨_, _, hdl, s0, _, _, h⟩ := h.plain_inv
    split at h
    · exact .inl ⟨h, hdl⟩
    · exact .inr h
  · exact .inr h.fire_inv.2.2.2

/-! ## The timed runs project onto the untimed model -/

def armedOK (D : ActorDesc) (B : Buckets) : Bool :=
  (statesOf B).all fun s => match s.armed with | none => true | some m => D.delayedMsgs.contains m

theorem treach_reach {C : TCfg} {B : Buckets} (hf : fresh C.D C.X = true) (hc : closed C.D B = true)
    (ha : armedOK C.D B = true) {ts : TSt} (h : TReach C ts) : Reach C.D ts.s := by
  induction h with
  | init => exact Reach.init
  | @step ts ts' e _ hstep ih =>
      cases e
      · obtain ⟨hm, _, _, s0, hs0, e, _⟩ := hstep.plain_inv
        exact Reach.step _ ih (List.mem_append_left _ (List.mem_map_of_mem hm)) (e ▸ step_plain_unsent _ _ hf _ _ _ hs0)
      · obtain ⟨_, _, ⟨m, harm, hs'⟩, _⟩ := hstep.fire_inv
        have := List.all_eq_true.mp ha _ (reach_in_cert hc ih)
        simp only [harm, List.contains_iff_mem] at this
        exact Reach.step _ ih (List.mem_append_right _ (List.mem_map_of_mem this)) hs'

structure Cert (C : TCfg) (B : Buckets) : Prop where
  fresh : fresh C.D C.X = true
  closed : closed C.D B = true
  armedOK : armedOK C.D B = true

theorem Cert.mem {C : TCfg} {B : Buckets} (hC : Cert C B) {ts : TSt} (h : TReach C ts) : ts.s ∈ statesOf B :=
  reach_in_cert hC.closed (treach_reach hC.fresh hC.closed hC.armedOK h)

/-- the scheduling assumption as an invariant: nothing happens after deadline + lag -/
theorem deadline {C : TCfg} {ts : TSt} (h : TReach C ts) :
    ts.armedAt ≤ ts.now ∧ (ts.s.armed.isSome = true → ts.now ≤ ts.armedAt + ts.armedDur + C.lag) := by
  induction h with
  | init => simp [tinit]
  | @step ts ts' e _ hstep ih =>
      rcases hstep.kept_or_armed with ⟨⟨e1, e2, e3⟩, hdl⟩ | ⟨e1, _⟩
      · rw [e1, e2, e3]
        exact ⟨Nat.le_trans ih.1 hstep.now_le, hdl⟩
      · rw [e1]
        exact ⟨Nat.le_refl _, fun _ => Nat.le_trans (Nat.le_add_right _ _) (Nat.le_add_right _ _)⟩

theorem armedAt_mono {C : TCfg} {ts ts' : TSt} {e : TEv} (hr : TReach C ts) (h : TStep C ts e ts') :
    ts.armedAt ≤ ts'.armedAt := by
  rcases h.kept_or_armed with ⟨⟨_, e, _⟩, _⟩ | ⟨e, _⟩
  · exact Nat.le_of_eq e.symm
  · exact e ▸ Nat.le_trans (deadline hr).1 h.now_le

/-! ## Phases and what the checks over the certificate say about a step -/
structure Phase where
  P : List LeafId        -- the leaves of the phase
  t : List MsgId         -- its timeout(s) / poll
  restart : List MsgId   -- plain messages that may restart the phase (re-arm its timeout)
  escape : List MsgId    -- plain messages that may end the phase before the timeout

def inP (ph : Phase) (s : St) : Bool := ph.P.contains s.leaf

/-- in every state of the phase the delayed call carrying the current token is the timeout -/
def armedIn (B : Buckets) (ph : Phase) : Bool :=
  (statesOf B).all fun s => !inP ph s || ph.t.any fun t => s.armed == some t

/-- while the phase lasts, only the restart messages touch the delayed call -/
def noRearm (C : TCfg) (B : Buckets) (ph : Phase) : Bool :=
  (statesOf B).all fun s => !inP ph s || C.D.plainMsgs.all fun m => ph.restart.contains m ||
    (step C.D { s with armed := some C.X } (.plain m)).all fun s0 => !inP ph s0 || s0.armed == some C.X

/-- the timeout ends the phase -/
def timeoutLeaves (C : TCfg) (B : Buckets) (ph : Phase) : Bool :=
  (statesOf B).all fun s => !inP ph s || ph.t.all fun t => s.armed != some t || (step C.D s (.delayed t)).all fun s' => !inP ph s'

/-- every plain message that enters the phase arms (entries by a delayed call are fresh by definition) -/
def entryArms (C : TCfg) (B : Buckets) (ph : Phase) : Bool :=
  (statesOf B).all fun s => inP ph s || C.D.plainMsgs.all fun m =>
    (step C.D { s with armed := some C.X } (.plain m)).all fun s0 => !inP ph s0 || s0.armed != some C.X

/-- only the escape messages end the phase early -/
def onlyEscapes (C : TCfg) (B : Buckets) (ph : Phase) : Bool :=
  (statesOf B).all fun s => !inP ph s || C.D.plainMsgs.all fun m => ph.escape.contains m ||
    (step C.D s (.plain m)).all fun s' => inP ph s'

section
variable {C : TCfg} {B : Buckets} {ph : Phase}

theorem armedIn_iff : armedIn B ph = true ↔ ∀ s ∈ statesOf B, inP ph s = true → ∃ t ∈ ph.t, s.armed = some t := by
  simp [armedIn, Decidable.or_iff_not_imp_left]

theorem noRearm_iff : noRearm C B ph = true ↔ ∀ s ∈ statesOf B, inP ph s = true → ∀ m ∈ C.D.plainMsgs, m ∉ ph.restart →
    ∀ s0 ∈ step C.D { s with armed := some C.X } (.plain m), inP ph s0 = true → s0.armed = some C.X := by
  simp [noRearm, Decidable.or_iff_not_imp_left]

theorem timeoutLeaves_iff : timeoutLeaves C B ph = true ↔ ∀ s ∈ statesOf B, inP ph s = true → ∀ t ∈ ph.t, s.armed = some t →
    ∀ s' ∈ step C.D s (.delayed t), inP ph s' = false := by
  simp [timeoutLeaves, Decidable.or_iff_not_imp_left]

theorem entryArms_iff : entryArms C B ph = true ↔ ∀ s ∈ statesOf B, inP ph s = false → ∀ m ∈ C.D.plainMsgs,
    ∀ s0 ∈ step C.D { s with armed := some C.X } (.plain m), inP ph s0 = true → s0.armed ≠ some C.X := by
  simp [entryArms, Decidable.or_iff_not_imp_left]

theorem onlyEscapes_iff : onlyEscapes C B ph = true ↔ ∀ s ∈ statesOf B, inP ph s = true → ∀ m ∈ C.D.plainMsgs, m ∉ ph.escape →
    ∀ s' ∈ step C.D s (.plain m), inP ph s' = true := by
  simp [onlyEscapes, Decidable.or_iff_not_imp_left]

theorem inP_unsent {X : MsgId} {a : Option MsgId} {s s0 : St} (e : s = unsent X a s0) : inP ph s0 = inP ph s := by
  rw [e, inP, inP, unsent_leaf]

variable (hC : Cert C B) {ts ts' : TSt} (hr : TReach C ts)
include hC hr

theorem armed_in (ha : armedIn B ph = true) (hin : inP ph ts.s = true) : ∃ t ∈ ph.t, ts.s.armed = some t :=
  armedIn_iff.mp ha _ (hC.mem hr) hin

theorem noRearm_kept (hb : noRearm C B ph = true) (hin : inP ph ts.s = true) {m : MsgId} {σ : String → Nat}
    (hstep : TStep C ts (.plain m σ) ts') (hm : m ∉ ph.restart) (hin' : inP ph ts'.s = true) : Kept ts ts' := by
  obtain ⟨hmem, _, _, s0, hs0, e, h⟩ := hstep.plain_inv
  rwa [if_pos (noRearm_iff.mp hb _ (hC.mem hr) hin m hmem hm s0 hs0 (inP_unsent e ▸ hin'))] at h

theorem entry_arms (he : entryArms C B ph = true) {e : TEv} (hout : inP ph ts.s = false) (hstep : TStep C ts e ts')
    (hin : inP ph ts'.s = true) : Armed C e ts' := by
  cases e
  · obtain ⟨hmem, _, _, s0, hs0, e, h⟩ := hstep.plain_inv
    rwa [if_neg (entryArms_iff.mp he _ (hC.mem hr) hout _ hmem s0 hs0 (inP_unsent e ▸ hin))] at h
  · exact hstep.fire_inv.2.2.2

theorem timeout_leaves (hl : timeoutLeaves C B ph = true) (ha : armedIn B ph = true) (hin : inP ph ts.s = true)
    {σ : String → Nat} (hstep : TStep C ts (.fire σ) ts') : inP ph ts'.s = false := by
  obtain ⟨_, _, ⟨m, harm, hs'⟩, _⟩ := hstep.fire_inv
  obtain ⟨t, ht, ha1⟩ := armed_in hC hr ha hin
  obtain rfl : t = m := Option.some.inj (ha1.symm.trans harm)
  exact timeoutLeaves_iff.mp hl _ (hC.mem hr) hin _ ht ha1 _ hs'

end

theorem exit_by_timeout_or_escape {C : TCfg} {B : Buckets} {ph : Phase} (hC : Cert C B) (he : onlyEscapes C B ph = true)
    {ts ts' : TSt} {e : TEv} (hr : TReach C ts) (hin : inP ph ts.s = true) (hstep : TStep C ts e ts')
    (hout : inP ph ts'.s = false) : (∃ σ, e = .fire σ) ∨ ∃ m ∈ ph.escape, ∃ σ, e = .plain m σ := by
  cases e with
  | fire σ => exact .inl ⟨σ, rfl⟩
  | plain m σ =>
      obtain ⟨hmem, _, _, s0, hs0, e, _⟩ := hstep.plain_inv
      refine .inr ⟨m, Decidable.by_contra fun hm => ?_, σ, rfl⟩
      have := onlyEscapes_iff.mp he _ (hC.mem hr) hin m hmem hm _ (e ▸ step_plain_unsent _ _ hC.fresh _ _ _ hs0)
      rw [hout] at this
      cases this

/-! ## Delays -/

/-- all delays with which the timeout can be armed in the phase are at least `n` / at most `n` -/
def durGe (C : TCfg) (ph : Phase) (n : Nat) : Bool :=
  ph.P.all fun l => ph.t.all fun t => match candidates C l t with
    | some ds => ds.all fun d => match d with | .halfSeconds k => n ≤ k | _ => false
    | none => false
def durLe (C : TCfg) (ph : Phase) (n : Nat) : Bool :=
  ph.P.all fun l => ph.t.all fun t => match candidates C l t with
    | some ds => ds.all fun d => match d with | .halfSeconds k => k ≤ n | _ => false
    | none => false

/-- all delays with which the timeout can be armed in the phase are the duration setting `x` -/
def durIs (C : TCfg) (ph : Phase) (x : String) : Bool :=
  ph.P.all fun l => ph.t.all fun t => match candidates C l t with
    | some ds => ds.all fun d => d == .setting x
    | none => false

section
variable {C : TCfg} {B : Buckets} {ph : Phase}

section
variable {σ : String → Nat} {any d : Nat} {s : St} (hin : inP ph s = true) {t : MsgId} (ht : t ∈ ph.t) (harm : s.armed = some t)
  (h : allowed C σ any s d)
include hin ht harm h

theorem allowed_all {q : Dur → Bool}
    (hq : (ph.P.all fun l => ph.t.all fun t => match candidates C l t with | some ds => ds.all q | none => false) = true) :
    ∃ x, q x = true ∧ resolve σ any x = d := by
  have := List.all_eq_true.mp (List.all_eq_true.mp hq s.leaf (by simpa [inP] using hin)) t ht
  simp only [allowed, harm] at h
  split at this
  · rename_i ds hds
    simp only [hds, List.mem_map] at h
    obtain ⟨x, hx, rfl⟩ := h
    exact ⟨x, List.all_eq_true.mp this x hx, rfl⟩
  · cases this

theorem allowed_ge {n : Nat} (hd : durGe C ph n = true) : n ≤ d := by
  obtain ⟨x, hx, rfl⟩ := allowed_all hin ht harm h hd
  cases x <;> simp_all [resolve]

theorem allowed_le {n : Nat} (hd : durLe C ph n = true) : d ≤ n := by
  obtain ⟨x, hx, rfl⟩ := allowed_all hin ht harm h hd
  cases x <;> simp_all [resolve]

theorem allowed_is {y : String} (hd : durIs C ph y = true) : d = σ y := by
  obtain ⟨x, hx, rfl⟩ := allowed_all hin ht harm h hd
  simp_all [resolve]

end

/-- the armed timeout was armed on entry or inside the phase, either way with a delay the table allows -/
theorem armedDur_allowed (hC : Cert C B) (he : entryArms C B ph = true) {Q : Nat → Prop}
    (hQ : ∀ {σ any d s t}, inP ph s = true → t ∈ ph.t → s.armed = some t → allowed C σ any s d → Q d)
    {ts : TSt} (h : TReach C ts) (hin : inP ph ts.s = true) {t : MsgId} (ht : t ∈ ph.t) (harm : ts.s.armed = some t) :
    Q ts.armedDur := by
  induction h with
  | init => cases harm
  | @step ts ts' e hr hstep ih =>
      rcases hstep.kept_or_armed with ⟨⟨e1, _, e3⟩, _⟩ | ⟨_, _, hall⟩
      · by_cases hsrc : inP ph ts.s = true
        · exact e3 ▸ ih hsrc (e1 ▸ harm)
        · obtain ⟨_, _, hall⟩ := entry_arms hC hr he (Bool.not_eq_true _ ▸ hsrc) hstep hin
          exact hQ hin ht harm hall
      · exact hQ hin ht harm hall

end

/-! ## Stretches of a phase -/

/-- the phase goes on: steps that stay in the phase and are not restarts -/
inductive Stay (C : TCfg) (ph : Phase) : TSt → TSt → Prop
  | refl (ts : TSt) : Stay C ph ts ts
  | step {ts0 ts ts' : TSt} {e : TEv} : Stay C ph ts0 ts → TStep C ts e ts' →
      (∀ m σ, e = .plain m σ → m ∉ ph.restart) → inP ph ts'.s = true → Stay C ph ts0 ts'

/-- the phase goes on, restarts included -/
inductive Within (C : TCfg) (ph : Phase) : TSt → TSt → Prop
  | refl (ts : TSt) : Within C ph ts ts
  | step {ts0 ts ts' : TSt} {e : TEv} : Within C ph ts0 ts → TStep C ts e ts' → inP ph ts'.s = true → Within C ph ts0 ts'

/-! ## A polling phase whose poll decides to leave after a limit

`StayPoll L`: the phase goes on (any events, polls included) and every poll delivered during the stay fired no later than `L`
after the entry – which is what the decision theorems about the poll give: a poll that finds the time in the phase beyond
its limit does not re-arm, it requests the exit (Tank: `C05.limits`; wintering: `Winter` policy).  Then the stay is bounded by
`L + period + lag`: the call carrying the current token was armed at the entry or by one of those polls. -/
inductive StayPoll (C : TCfg) (ph : Phase) (L : Nat) : TSt → TSt → Prop
  | refl (ts : TSt) : StayPoll C ph L ts ts
  | step {ts0 ts ts' : TSt} {e : TEv} : StayPoll C ph L ts0 ts → TStep C ts e ts' → inP ph ts'.s = true →
      ((∃ σ, e = .fire σ) → ts'.now ≤ ts0.now + L) → StayPoll C ph L ts0 ts'

section
variable {C : TCfg} {B : Buckets} {ph : Phase}

theorem Stay.within {ts0 ts : TSt} (h : Stay C ph ts0 ts) : Within C ph ts0 ts := by
  induction h with
  | refl => exact .refl _
  | step _ hstep _ hin ih => exact .step ih hstep hin

theorem StayPoll.within {L : Nat} {ts0 ts : TSt} (h : StayPoll C ph L ts0 ts) : Within C ph ts0 ts := by
  induction h with
  | refl => exact .refl _
  | step _ hstep hin _ ih => exact .step ih hstep hin

section
variable (hC : Cert C B) {ts0 ts : TSt} (h0 : TReach C ts0) (hin0 : inP ph ts0.s = true)
include h0 hin0

theorem Within.inv (h : Within C ph ts0 ts) : TReach C ts ∧ inP ph ts.s = true ∧ ts0.armedAt ≤ ts.armedAt := by
  induction h with
  | refl => exact ⟨h0, hin0, Nat.le_refl _⟩
  | step _ hstep hin ih => exact ⟨.step _ ih.1 hstep, hin, Nat.le_trans ih.2.2 (armedAt_mono ih.1 hstep)⟩

include hC

theorem Stay.keeps (hb : noRearm C B ph = true) (hl : timeoutLeaves C B ph = true) (ha : armedIn B ph = true)
    (h : Stay C ph ts0 ts) : ts.armedAt = ts0.armedAt ∧ ts.armedDur = ts0.armedDur := by
  induction h with
  | refl => exact ⟨rfl, rfl⟩
  | @step ts ts' e hs hstep hnr hin' ih =>
      obtain ⟨hr, hin, _⟩ := hs.within.inv h0 hin0
      cases e with
      | plain m σ =>
          obtain ⟨_, e1, e2⟩ := noRearm_kept hC hr hb hin hstep (hnr m σ rfl) hin'
          exact ⟨e1.trans ih.1, e2.trans ih.2⟩
      | fire σ => cases hin'.symm.trans (timeout_leaves hC hr hl ha hin hstep)

/-- in a polling phase that nothing restarts, the delayed call was armed at the entry or by a poll, so no later than `L` after it -/
theorem StayPoll.armedAt_le {L : Nat} (hb : noRearm C B ph = true) (hnr : ph.restart = []) (hat : ts0.armedAt ≤ ts0.now + L)
    (h : StayPoll C ph L ts0 ts) : ts.armedAt ≤ ts0.now + L := by
  induction h with
  | refl => exact hat
  | @step ts ts' e hs hstep hin' hfire ih =>
      obtain ⟨hr, hin, _⟩ := hs.within.inv h0 hin0
      cases e with
      | plain m σ => exact (noRearm_kept hC hr hb hin hstep (hnr ▸ List.not_mem_nil) hin').2.1 ▸ ih
      | fire σ => exact hstep.fire_inv.2.2.2.1 ▸ hfire ⟨σ, rfl⟩

end

/-! ## The theorems the properties use: entry + stretch -/

/-- the bound of `phase_ends_on_time` before the table is consulted: `armedDur` at the entry is an allowed delay of the timeout -/
theorem phase_ends (hC : Cert C B) (hb : noRearm C B ph = true) (hl : timeoutLeaves C B ph = true) (ha : armedIn B ph = true)
    (he : entryArms C B ph = true) {ts ts0 ts1 : TSt} {e : TEv} (hr : TReach C ts) (hout : inP ph ts.s = false)
    (hstep : TStep C ts e ts0) (hin : inP ph ts0.s = true) (hstay : Stay C ph ts0 ts1) :
    ∃ t ∈ ph.t, ts0.s.armed = some t ∧ (∃ any, allowed C e.settings any ts0.s ts0.armedDur) ∧
      ts1.now ≤ ts0.now + ts0.armedDur + C.lag := by
  have hr0 := TReach.step e hr hstep
  obtain ⟨hat, hall⟩ := entry_arms hC hr he hout hstep hin
  obtain ⟨t, ht, harm⟩ := armed_in hC hr0 ha hin
  obtain ⟨hr1, hin1, _⟩ := hstay.within.inv hr0 hin
  obtain ⟨t1, _, harm1⟩ := armed_in hC hr1 ha hin1
  obtain ⟨e1, e2⟩ := hstay.keeps hC hr0 hin hb hl ha
  have := (deadline hr1).2 (by simp [harm1])
  exact ⟨t, ht, harm, hall, by omega⟩

end

/-- **A time-limited phase ends on time** (constant duration): entered at `ts0.now`, and for as long as it goes on without
    being restarted, the clock is at most `ts0.now + n + lag`. -/
theorem phase_ends_on_time {C : TCfg} {B : Buckets} {ph : Phase} {n : Nat} (hC : Cert C B)
    (hb : noRearm C B ph = true) (hl : timeoutLeaves C B ph = true) (ha : armedIn B ph = true)
    (he : entryArms C B ph = true) (hd : durLe C ph n = true)
    {ts ts0 ts1 : TSt} {e : TEv} (hr : TReach C ts) (hout : inP ph ts.s = false) (hstep : TStep C ts e ts0)
    (hin : inP ph ts0.s = true) (hstay : Stay C ph ts0 ts1) : ts1.now ≤ ts0.now + n + C.lag := by
  obtain ⟨t, ht, harm, ⟨any, hall⟩, h⟩ := phase_ends hC hb hl ha he hr hout hstep hin hstay
  have := allowed_le hin ht harm hall hd
  omega

/-- … with a duration setting: the bound is the value of the setting read by the handler that entered the phase -/
theorem phase_ends_on_time_setting {C : TCfg} {B : Buckets} {ph : Phase} {x : String} (hC : Cert C B)
    (hb : noRearm C B ph = true) (hl : timeoutLeaves C B ph = true) (ha : armedIn B ph = true)
    (he : entryArms C B ph = true) (hd : durIs C ph x = true)
    {ts ts0 ts1 : TSt} {e : TEv} (hr : TReach C ts) (hout : inP ph ts.s = false) (hstep : TStep C ts e ts0)
    (hin : inP ph ts0.s = true) (hstay : Stay C ph ts0 ts1) : ts1.now ≤ ts0.now + e.settings x + C.lag := by
  obtain ⟨t, ht, harm, ⟨any, hall⟩, h⟩ := phase_ends hC hb hl ha he hr hout hstep hin hstay
  rwa [allowed_is hin ht harm hall hd] at h

/-- **A minimum phase lasts at least its delay**: entered at `ts0.now`; when its timeout ends it (after any number of
    events inside the phase, restarts included), at least `n` has elapsed; and nothing but the timeout or an escape
    message ends it (`exit_by_timeout_or_escape`). -/
theorem phase_lasts {C : TCfg} {B : Buckets} {ph : Phase} {n : Nat} (hC : Cert C B) (ha : armedIn B ph = true)
    (he : entryArms C B ph = true) (hd : durGe C ph n = true)
    {ts ts0 ts1 ts2 : TSt} {e : TEv} {σf : String → Nat} (hr : TReach C ts) (hout : inP ph ts.s = false)
    (hstep : TStep C ts e ts0) (hin : inP ph ts0.s = true) (hw : Within C ph ts0 ts1)
    (hfire : TStep C ts1 (.fire σf) ts2) : ts0.now + n ≤ ts2.now := by
  obtain ⟨hr1, hin1, hmono⟩ := hw.inv (.step e hr hstep) hin
  obtain ⟨t, ht, harm⟩ := armed_in hC hr1 ha hin1
  have := armedDur_allowed hC he (Q := (n ≤ ·)) (allowed_ge · · · · hd) hr1 hin1 ht harm
  have := (entry_arms hC hr he hout hstep hin).1
  have := hfire.fire_inv.2.1
  omega

/-- **Polling**: whenever, in a polling phase, the delayed call carrying the current token is the poll, it was armed with
    at most the period: the next poll is delivered no later than `armedAt + n + lag`.  Also for a phase that holds the initial
    state: nothing is armed at the start.  (That the poll IS armed, or a self-message that ends the phase is pending, is the
    untimed invariant `C08.timerOK`.) -/
theorem poll_keeps_period {C : TCfg} {B : Buckets} {ph : Phase} {n : Nat} (hC : Cert C B)
    (he : entryArms C B ph = true) (hd : durLe C ph n = true)
    {ts : TSt} {t : MsgId} (h : TReach C ts) (hin : inP ph ts.s = true) (ht : t ∈ ph.t) (harm : ts.s.armed = some t) :
    ts.armedDur ≤ n ∧ ts.now ≤ ts.armedAt + n + C.lag := by
  have := armedDur_allowed hC he (Q := (· ≤ n)) (allowed_le · · · · hd) h hin ht harm
  have := (deadline h).2 (by simp [harm])
  exact ⟨‹_›, by omega⟩

/-- `poll_keeps_period` for a phase that does not hold the initial state (a hypothesis the proof does not need) -/
theorem poll_period {C : TCfg} {B : Buckets} {ph : Phase} {n : Nat} (hC : Cert C B)
    (he : entryArms C B ph = true) (hd : durLe C ph n = true) (hinit : inP ph (initSt C.D) = false)
    {ts : TSt} (h : TReach C ts) (hin : inP ph ts.s = true) {t : MsgId} (ht : t ∈ ph.t) (harm : ts.s.armed = some t) :
    ts.armedDur ≤ n ∧ ts.now ≤ ts.armedAt + n + C.lag :=
  poll_keeps_period hC he hd h hin ht harm

/-- `StayPoll`: while the poll is the armed call, the clock is at most entry + L + period + lag -/
theorem staypoll_time {C : TCfg} {B : Buckets} {ph : Phase} {n L : Nat} (hC : Cert C B)
    (hb : noRearm C B ph = true) (he : entryArms C B ph = true) (hd : durLe C ph n = true) (hnr : ph.restart = [])
    {ts tsE ts1 : TSt} {e : TEv} (hr : TReach C ts) (hout : inP ph ts.s = false) (hstep : TStep C ts e tsE)
    (hin : inP ph tsE.s = true) (hstay : StayPoll C ph L tsE ts1) {t : MsgId} (ht : t ∈ ph.t) (harm : ts1.s.armed = some t) :
    ts1.now ≤ tsE.now + L + n + C.lag := by
  have hrE := TReach.step e hr hstep
  obtain ⟨hr1, hin1, _⟩ := hstay.within.inv hrE hin
  have := hstay.armedAt_le hC hrE hin hb hnr ((entry_arms hC hr he hout hstep hin).1 ▸ Nat.le_add_right _ _)
  have := (poll_keeps_period hC he hd hr1 hin1 ht harm).2
  omega

/-! ## The checks of an actor

`slotOK` goes over the sentinel runs (`allPlain`, Proofs/Closure.lean) once for a whole list of phases: it yields `entryArms`
for every phase of `ents` and `noRearm` for every phase of `stays`.  The other checks look at the few states of one phase. -/

/-- over every sentinel run from the certificate: a handler that leaves the delayed call alone enters no phase of `ents`
    from outside (none at all if it stays in its leaf: tested first because it is cheap and the common case); one that touches
    it, other than on a restart message, does not stay inside a phase of `stays` -/
def slotOK (D : ActorDesc) (X : MsgId) (B : Buckets) (ents stays : List Phase) : Bool :=
  (statesOf B).all fun s => allPlain D { s with armed := some X } fun m s0 =>
    if s0.armed == some X then s0.leaf == s.leaf || ents.all fun ph => inP ph s || !inP ph s0
    else stays.all fun ph => !inP ph s || ph.restart.contains m || !inP ph s0

section
variable {C : TCfg} {B : Buckets} {ph : Phase}

section
variable {ents stays : List Phase} (h : slotOK C.D C.X B ents stays = true)
include h

theorem slotOK_entryArms (hph : ph ∈ ents) : entryArms C B ph = true := by
  refine entryArms_iff.mpr fun s hs hout m hm s0 hs0 hin hx => ?_
  have := allPlain_sound (List.all_eq_true.mp h s hs) hm hs0
  rw [if_pos (beq_iff_eq.mpr hx)] at this
  simp only [Bool.or_eq_true, beq_iff_eq, List.all_eq_true] at this
  rcases this with e | this
  · rw [inP, e, ← inP, hout] at hin
    cases hin
  · simpa [hout, hin] using this ph hph

theorem slotOK_noRearm (hph : ph ∈ stays) : noRearm C B ph = true := by
  refine noRearm_iff.mpr fun s hs hin m hm hr s0 hs0 hin0 => Decidable.by_contra fun hx => ?_
  have := allPlain_sound (List.all_eq_true.mp h s hs) hm hs0
  simp only [beq_iff_eq, hx, if_false, List.all_eq_true] at this
  simpa [hin, hr, hin0] using this ph hph

end

/-! The checks of a list of phases of one kind, each with the hypotheses of the generic theorems it yields. -/

/-- time-limited phases with their duration (`dur` = `durLe C`: a constant, `durIs C`: a setting) -/
abbrev Timed (C : TCfg) (B : Buckets) {α : Type} (dur : Phase → α → Bool) (l : List (Phase × α)) : Prop :=
  slotOK C.D C.X B (l.map (·.1)) (l.map (·.1)) = true ∧
    ∀ p ∈ l, timeoutLeaves C B p.1 = true ∧ armedIn B p.1 = true ∧ dur p.1 p.2 = true

/-- phases that last at least their duration -/
abbrev Minimum (C : TCfg) (B : Buckets) (l : List (Phase × Nat)) : Prop :=
  slotOK C.D C.X B (l.map (·.1)) [] = true ∧
    ∀ p ∈ l, armedIn B p.1 = true ∧ onlyEscapes C B p.1 = true ∧ durGe C p.1 p.2 = true

/-- polling phases with their period -/
abbrev Polls (C : TCfg) (B : Buckets) (l : List (Phase × Nat)) : Prop :=
  slotOK C.D C.X B (l.map (·.1)) [] = true ∧ ∀ p ∈ l, durLe C p.1 p.2 = true

/-- polling phases in which nothing but the poll touches the delayed call -/
abbrev Limited (C : TCfg) (B : Buckets) (l : List (Phase × Nat)) : Prop :=
  slotOK C.D C.X B (l.map (·.1)) (l.map (·.1)) = true ∧ ∀ p ∈ l, durLe C p.1 p.2 = true ∧ p.1.restart = []

section
variable {α : Type} {dur : Phase → α → Bool} {l : List (Phase × α)} {k : List (Phase × Nat)} {p : Phase × α} {q : Phase × Nat}

theorem Timed.hyps (h : Timed C B dur l) (hp : p ∈ l) : noRearm C B p.1 = true ∧ timeoutLeaves C B p.1 = true ∧
    armedIn B p.1 = true ∧ entryArms C B p.1 = true ∧ dur p.1 p.2 = true :=
  have hm := List.mem_map_of_mem (f := (·.1)) hp
  have ⟨hl, ha, hd⟩ := h.2 p hp
  ⟨slotOK_noRearm h.1 hm, hl, ha, slotOK_entryArms h.1 hm, hd⟩

theorem Minimum.hyps (h : Minimum C B k) (hp : q ∈ k) : armedIn B q.1 = true ∧ entryArms C B q.1 = true ∧
    onlyEscapes C B q.1 = true ∧ durGe C q.1 q.2 = true :=
  have ⟨ha, ho, hd⟩ := h.2 q hp
  ⟨ha, slotOK_entryArms h.1 (List.mem_map_of_mem (f := (·.1)) hp), ho, hd⟩

theorem Polls.hyps (h : Polls C B k) (hp : q ∈ k) : entryArms C B q.1 = true ∧ durLe C q.1 q.2 = true :=
  ⟨slotOK_entryArms h.1 (List.mem_map_of_mem (f := (·.1)) hp), h.2 q hp⟩

theorem Limited.hyps (h : Limited C B k) (hp : q ∈ k) : noRearm C B q.1 = true ∧ entryArms C B q.1 = true ∧
    durLe C q.1 q.2 = true ∧ q.1.restart = [] :=
  have hm := List.mem_map_of_mem (f := (·.1)) hp
  ⟨slotOK_noRearm h.1 hm, slotOK_entryArms h.1 hm, h.2 q hp⟩

end

end

end Poupool.Timed
