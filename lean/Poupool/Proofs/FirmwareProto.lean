/-
Helper lemmas for property C19, protocol part: the serial step at a newline, what a dispatch prints, the driver's
parser on a reply.
-/
import Poupool.Proofs.FirmwareMotor

namespace Poupool.Firmware
open Poupool.FirmwareConst

def ascii (s : String) : List Nat := s.toList.map Char.toNat

theorem serialStep_newline {s : St} {pre : List Nat} (h : Holds (rbOf s) pre) (hl : pre.length ≤ 30) :
    serialStep s 10 = dispatchCore { s with idx := s.idx + 1 } ∧
    cstr s = pre.takeWhile (fun x => x != 0) := by
  obtain ⟨hs, hz, hc⟩ := h.cstr (by omega)
  have hi : s.idx = pre.length := h.1
  have hst : bufStore s 0 = { s with idx := s.idx + 1 } := by
    rw [bufStore, bufWrite, bufSize, if_pos (by omega), show s.buf.set s.idx 0 = s.buf from hs]
  refine ⟨?_, hc⟩
  rw [serialStep_eq, bufFullAt, bufIgnoreAt, if_neg (by decide), if_neg (by omega), if_neg (by omega), if_pos rfl, hst,
    dispatch, if_pos (show s.buf.any (fun x => x == 0) = true from hz)]

/-! ### what a dispatch prints and does -/

theorem pct_emit (s : St) (b : List Nat) : pct (emit s b) = pct s := rfl

theorem dispatchCore_ops {s : St} {c : List Nat} (hc : cstr s = c) (ops : List Op) (h : findCmd c commands = ops) :
    (dispatchCore s).out = (ops.foldl runOp s).out ++ (terminator ++ crlf) ∧
    (dispatchCore s).dir = (ops.foldl runOp s).dir ∧ (dispatchCore s).pos = (ops.foldl runOp s).pos := by
  subst hc h; exact ⟨rfl, rfl, rfl⟩

theorem findCmd_not_mem (c : List Nat) : ∀ t : List (List Nat × List Op), c ∉ t.map Prod.fst → findCmd c t = errorOps
  | [], _ => rfl
  | (n, ops) :: r, h => by
    rw [List.map_cons, List.mem_cons, not_or] at h
    rw [findCmd, if_neg h.1, findCmd_not_mem c r h.2]

/-! ### decimal printing (`Print::print(unsigned long)`) and Python's `int()` -/

theorem decAux_eq (n : Nat) : ∀ fuel acc, n < fuel → decAux fuel n acc = decNat n ++ acc := by
  induction n using Nat.strongRecOn with
  | _ n ih =>
    intro fuel acc hf
    obtain ⟨f, rfl⟩ : ∃ f, fuel = f + 1 := ⟨fuel - 1, by omega⟩
    unfold decNat decAux
    split
    · rfl
    · rw [ih (n / 10) (by omega) f _ (by omega), ih (n / 10) (by omega) n _ (by omega), List.append_assoc]
      rfl

theorem decNat_small {n : Nat} (h : n < 10) : decNat n = [48 + n] := by
  rw [decNat, decAux, if_pos h]

theorem decNat_big {n : Nat} (h : ¬ n < 10) : decNat n = decNat (n / 10) ++ [48 + n % 10] := by
  rw [decNat, decAux, if_neg h, decAux_eq _ _ _ (by omega)]

theorem decNat_digits (n : Nat) : decNat n ≠ [] ∧ ∀ d ∈ decNat n, 48 ≤ d ∧ d ≤ 57 := by
  induction n using Nat.strongRecOn with
  | _ n ih =>
    by_cases h : n < 10
    · rw [decNat_small h]
      exact ⟨List.cons_ne_nil _ _, fun d hd => by rw [List.mem_singleton.mp hd]; omega⟩
    · rw [decNat_big h]
      refine ⟨by simp, fun d hd => ?_⟩
      rcases List.mem_append.mp hd with hd | hd
      · exact (ih (n / 10) (by omega)).2 d hd
      · rw [List.mem_singleton.mp hd]; omega

theorem pyDigits_append {l : List Nat} {m : Nat} (r : List Nat) : ∀ {acc : Option Nat}, pyDigits l acc = some m →
    pyDigits (l ++ r) acc = pyDigits r (some m) := by
  induction l with
  | nil => intro acc h; rw [show acc = some m from h]; rfl
  | cons c cs ih =>
    intro acc h
    rw [pyDigits] at h
    split at h
    · rw [List.cons_append, pyDigits, if_pos ‹_›, ih h]
    · exact nomatch h

theorem pyDigits_decNat (n : Nat) : pyDigits (decNat n) none = some n := by
  induction n using Nat.strongRecOn with
  | _ n ih =>
    by_cases h : n < 10
    · rw [decNat_small h, pyDigits, if_pos (by omega)]
      exact congrArg some (by simp)
    · rw [decNat_big h, pyDigits_append _ (ih (n / 10) (by omega)), pyDigits, if_pos (by omega)]
      exact congrArg some (by simp; omega)

theorem digit_not_space {d : Nat} (h : 48 ≤ d ∧ d ≤ 57) : pyIsSpace d = false := by
  unfold pyIsSpace
  simp only [Bool.or_eq_false_iff, Bool.and_eq_false_iff, decide_eq_false_iff_not]
  omega

/-! ### the Python text layer on a firmware reply -/

theorem pyNewlines_no_cr {l r : List Nat} (h : 13 ∉ l) : pyNewlines (l ++ r) = l ++ pyNewlines r := by
  induction l with
  | nil => rfl
  | cons c cs ih =>
    rw [List.mem_cons, not_or] at h
    simp [pyNewlines, ih h.2, Ne.symm h.1]

theorem pyReadline_line {l r : List Nat} (h : 10 ∉ l) : pyReadline (l ++ 10 :: r) = (l ++ [10], r) := by
  induction l with
  | nil => simp [pyReadline]
  | cons c cs ih =>
    rw [List.mem_cons, not_or] at h
    simp [pyReadline, ih h.2, Ne.symm h.1]

/-- a reply body as the driver's receive loop keeps it: not blank at either end, no LF inside, not the terminator -/
structure Body (B : List Nat) : Prop where
  head : ∀ c ∈ B.head?, pyIsSpace c = false ∧ c ≠ 42
  last : ∀ c ∈ B.getLast?, pyIsSpace c = false
  ne : B ≠ []
  noLf : 10 ∉ B

theorem dropWhile_head {p : Nat → Bool} {L : List Nat} (h : ∀ c ∈ L.head?, p c = false) : L.dropWhile p = L := by
  cases L with
  | nil => rfl
  | cons c r => rw [List.dropWhile_cons, h c rfl]; rfl

theorem Body.strip {B : List Nat} (h : Body B) : pyStrip (B ++ [10]) = B ∧ pyStrip B = B := by
  have h0 : ∀ c ∈ B.head?, pyIsSpace c = false := fun c hc => (h.head c hc).1
  have hr : ∀ c ∈ B.reverse.head?, pyIsSpace c = false := by rw [List.head?_reverse]; exact h.last
  unfold pyStrip
  constructor
  · rw [dropWhile_head (L := B ++ [10]) (by cases B with | nil => exact absurd rfl h.ne | cons c r => exact h0),
      List.reverse_append]
    show (List.dropWhile pyIsSpace (10 :: B.reverse)).reverse = B
    rw [List.dropWhile_cons, if_pos (by decide), dropWhile_head hr, List.reverse_reverse]
  · rw [dropWhile_head h0, dropWhile_head hr, List.reverse_reverse]

/-- the parser on a reply block `B\n***\n` -/
theorem pyParse_body {cmd B : List Nat} (h : Body B) (hcmd : cmd <+: B) :
    pyParse cmd (B ++ [10, 42, 42, 42, 10]) = (some B, []) := by
  have hnp : ([42, 42, 42] : List Nat).isPrefixOf (B ++ [10]) = false := by
    cases B with
    | nil => exact absurd rfl h.ne
    | cons c r => simp [List.isPrefixOf]; intro e; exact absurd e.symm (h.head c rfl).2
  have hs2 : pyStrip [42, 42, 42, 10] = [42, 42, 42] := by decide
  simp [pyParse, pyReadline_line h.noLf, pyReceive, hnp, h.strip.1, pyReadline, hs2,
    List.isPrefixOf_iff_prefix.mpr hcmd]

theorem body_digits {P D : List Nat} (hP : ∀ c ∈ P.head?, pyIsSpace c = false ∧ c ≠ 42) (hP10 : 10 ∉ P)
    (hD : ∀ d ∈ D, 48 ≤ d ∧ d ≤ 57) (hne : D ≠ []) : Body (P ++ D) where
  head c hc := by
    cases P with
    | nil => have := hD c (List.mem_of_mem_head? hc); exact ⟨digit_not_space this, by omega⟩
    | cons p r => exact hP c hc
  last c hc := by
    rw [List.getLast?_append, List.getLast?_eq_some_getLast hne, Option.some_or] at hc
    exact digit_not_space (hD c (Option.some.inj hc ▸ List.getLast_mem hne))
  ne := by simp [hne]
  noLf h := by
    rcases List.mem_append.mp h with h | h
    · exact hP10 h
    · have := hD 10 h; omega

theorem pyRemoveAll_absent (c0 : Nat) (ps : List Nat) (l : List Nat) : ∀ fuel : Nat, (∀ c ∈ l, c ≠ c0) →
    pyRemoveAll (c0 :: ps) fuel l = l := by
  induction l with
  | nil => intro fuel _; cases fuel <;> rfl
  | cons c cs ih =>
    intro fuel h
    rw [List.forall_mem_cons] at h
    cases fuel with
    | zero => rfl
    | succ f => simp [pyRemoveAll, List.isPrefixOf, Ne.symm h.1, ih f h.2]

theorem pyInt_decNat (n : Nat) : pyInt (decNat n) = some (n : Int) := by
  obtain ⟨hne, hdig⟩ := decNat_digits n
  obtain ⟨d, ds, hD⟩ := List.exists_cons_of_ne_nil hne
  have hd := hdig d (hD ▸ List.mem_cons_self ..)
  rw [pyInt, show pyStrip (decNat n) = decNat n from
    (body_digits (P := []) (fun _ h => nomatch h) (fun h => nomatch h) hdig hne).strip.2, hD]
  dsimp only
  rw [if_neg (by omega), if_neg (by omega), ← hD, pyDigits_decNat]
  rfl

theorem pyValue_numeric {cmd : List Nat} {c0 : Nat} {ps : List Nat} (n : Nat) (hcmd : cmd ++ [32] = c0 :: ps)
    (hc0 : c0 < 48 ∨ 57 < c0) :
    pyValue cmd (some (cmd ++ [32] ++ decNat n)) = some (n : Int) := by
  have hdig := (decNat_digits n).2
  rw [hcmd, List.cons_append, pyValue, hcmd, List.length_cons, pyRemoveAll,
    if_pos ⟨by simp, List.isPrefixOf_iff_prefix.mpr (List.prefix_append (c0 :: ps) _)⟩,
    ← List.cons_append, List.drop_left,
    pyRemoveAll_absent c0 ps _ _ fun c hc => by have := hdig c hc; omega]
  · exact pyInt_decNat n
  · exact List.cons_ne_nil _ _

theorem driver_accepts_numeric {name P : List Nat} (n : Nat) (hP : name ++ [32] = P)
    (h0 : ∀ c ∈ P.head?, pyIsSpace c = false ∧ c ≠ 42 ∧ (c < 48 ∨ 57 < c)) (h10 : 10 ∉ P) (h13 : 13 ∉ P) :
    pyParse name (pyNewlines (P ++ decNat n ++ ascii "\r\n***\r\n")) = (some (P ++ decNat n), []) ∧
    pyValue name (some (P ++ decNat n)) = some (n : Int) := by
  obtain ⟨hne, hdig⟩ := decNat_digits n
  obtain ⟨c0, ps, hc⟩ := List.exists_cons_of_ne_nil (l := P) (by simp [← hP])
  refine ⟨?_, hP ▸ pyValue_numeric n (hP.trans hc) (h0 c0 (by rw [hc]; rfl)).2.2⟩
  rw [pyNewlines_no_cr (fun h => (List.mem_append.mp h).elim h13 fun h => by have := hdig 13 h; omega),
    show pyNewlines (ascii "\r\n***\r\n") = [10, 42, 42, 42, 10] from rfl]
  exact pyParse_body (body_digits (fun c hc => ⟨(h0 c hc).1, (h0 c hc).2.1⟩) h10 hdig hne)
    (hP ▸ (List.prefix_append name [32]).trans (List.prefix_append _ _))

/-- the witness: EEPROM (97, 0, 100); `open`; 4 encoder pulses inside the relay delay (the motor has just been
energised, 50 pulses/s nominal = 5 pulses in 100 ms); two loop iterations with a pulse; `stop`; 600 ms without pulses;
one more pulse; 4 s. -/
def raceWitness : List Ev :=
  [.byte 111, .byte 112, .byte 101, .byte 110, .delayPulses 4, .byte 10, .tick 20, .pulse, .tick 20,
   .byte 115, .byte 116, .byte 111, .byte 112, .byte 10, .tick 600, .adv 20, .pulse, .tick 4000]

end Poupool.Firmware
