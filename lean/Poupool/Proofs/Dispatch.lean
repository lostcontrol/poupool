/-
Generic lemmas about Model/Dispatch.lean (any table, any parse/lower/decode).  Used by Properties/C14.lean and
Properties/C15Ui.lean.
-/
import Poupool.Model.Dispatch

namespace Poupool.Dispatch

variable {table : List Entry} {bt : List String}
  {parse : String → Option PyNum} {lower : String → String} {decode : ByteArray → Option String}

theorem lookup_some {s : State} {topic : String} {e : Entry} (h : lookup table s topic = some e) :
    e ∈ table ∧ e.topic = topic ∧ s.removed.contains topic = false ∧ entryOf table topic = some e := by
  unfold lookup at h
  split at h
  · cases h
  next hc => exact ⟨List.mem_of_find?_eq_some h, by simpa using List.find?_some h, by simpa using hc, h⟩

theorem dispatch_cases (table : List Entry) (bt : List String) (parse : String → Option PyNum)
    (lower : String → String) (decode : ByteArray → Option String) (s : State) (topic : String) (payload : ByteArray) :
    dispatch table bt parse lower decode s topic payload = (s, none) ∨
    ∃ e data v, lookup table s topic = some e ∧ decode payload = some data ∧
      evalPred parse lower e.pred data = some true ∧ evalConv bt parse lower e.conv data = some v ∧
      dispatch table bt parse lower decode s topic payload =
        (if e.once then { removed := topic :: s.removed } else s, some ⟨e.target, methodName e.method data, v⟩) := by
  unfold dispatch
  split
  · exact .inl rfl
  next e he =>
    split
    · exact .inl rfl
    next data hd =>
      split
      next hp =>
        split
        · exact .inl rfl
        next v hv => exact .inr ⟨e, data, v, he, hd, hp, hv, rfl⟩
      · exact .inl rfl

theorem dispatch_tell_inv {s s' : State} {topic : String} {payload : ByteArray} {tl : Tell}
    (h : dispatch table bt parse lower decode s topic payload = (s', some tl)) :
    ∃ e ∈ table, e.topic = topic ∧ tl.target = e.target ∧ ∃ data, evalPred parse lower e.pred data = some true ∧
      evalConv bt parse lower e.conv data = some tl.arg ∧ tl.method = methodName e.method data := by
  rcases dispatch_cases table bt parse lower decode s topic payload with h0 | ⟨e, data, v, hl, -, hp, hv, h1⟩
  · rw [h0] at h
    cases h
  · rw [h1] at h
    cases h
    exact ⟨e, (lookup_some hl).1, (lookup_some hl).2.1, rfl, data, hp, hv, rfl⟩

theorem dispatch_none_state {s : State} {topic : String} {payload : ByteArray}
    (h : (dispatch table bt parse lower decode s topic payload).2 = none) :
    (dispatch table bt parse lower decode s topic payload).1 = s := by
  rcases dispatch_cases table bt parse lower decode s topic payload with h0 | ⟨e, data, v, -, -, -, -, h1⟩
  · rw [h0]
  · rw [h1] at h
    cases h

theorem dispatch_unknown {s : State} {topic : String} {payload : ByteArray}
    (h : lookup table s topic = none) :
    dispatch table bt parse lower decode s topic payload = (s, none) := by
  unfold dispatch
  rw [h]

theorem lookup_none_of_not_mem {s : State} {topic : String} (h : ∀ e ∈ table, e.topic ≠ topic) :
    lookup table s topic = none := by
  unfold lookup
  split
  · rfl
  · rw [List.find?_eq_none]
    intro e he
    simpa using h e he

/-! ### truncation keeps an integer-bounded value inside the bounds -/

theorem tdiv_le_of_le_mul {H n : Int} {d : Nat} (hd : 0 < d) (h : n ≤ H * (d : Int)) : n.tdiv d ≤ H := by
  -- truncation is odd: the bound from above is the bound from below of `-n`
  have := Int.le_tdiv_of_mul_le (Int.natCast_pos.mpr hd) (show -H * (d : Int) ≤ -n by rw [Int.neg_mul]; omega)
  rw [Int.neg_tdiv] at this
  omega

theorem Q.isInt_le {b x : Q} (h : b.isInt = true) : b ≤ x ↔ b.num * (x.den : Int) ≤ x.num := by
  have hden : b.den = 1 := by simpa [Q.isInt] using h
  show b.num * (x.den : Int) ≤ x.num * (b.den : Int) ↔ _
  simp [hden]

theorem Q.le_isInt {b x : Q} (h : b.isInt = true) : x ≤ b ↔ x.num ≤ b.num * (x.den : Int) := by
  have hden : b.den = 1 := by simpa [Q.isInt] using h
  show x.num * (b.den : Int) ≤ b.num * (x.den : Int) ↔ _
  simp [hden]

theorem Q.isInt_le_ofInt {b : Q} {k : Int} (h : b.isInt = true) : b ≤ Q.ofInt k ↔ b.num ≤ k := by
  simp [Q.isInt_le h, Q.ofInt]

theorem Q.ofInt_le_isInt {b : Q} {k : Int} (h : b.isInt = true) : Q.ofInt k ≤ b ↔ k ≤ b.num := by
  simp [Q.le_isInt h, Q.ofInt]

theorem trunc_ge {lo x : Q} (hi : lo.isInt = true) (h : lo ≤ x) : lo ≤ Q.ofInt x.trunc :=
  (Q.isInt_le_ofInt hi).2 (Int.le_tdiv_of_mul_le (Int.natCast_pos.mpr x.pos) ((Q.isInt_le hi).1 h))

theorem trunc_le {hi x : Q} (hint : hi.isInt = true) (h : x ≤ hi) : Q.ofInt x.trunc ≤ hi :=
  (Q.ofInt_le_isInt hint).2 (tdiv_le_of_le_mul x.pos ((Q.le_isInt hint).1 h))

/-! ### the value told satisfies the entry's predicate (C14(2), value part) -/

/-- `int(float(data))` returns only for a finite number -/
theorem evalConv_toInt {data : String} {v : Val} (h : evalConv bt parse lower .toInt data = some v) :
    ∃ x, parse data = some (.fin x) ∧ v = .int x.trunc := by
  simp only [evalConv] at h
  split at h
  · exact ⟨_, ‹_›, (Option.some.inj h).symm⟩
  · cases h

theorem value_ok {e : Entry} {data : String} {v : Val} (hwf : e.wf = true)
    (hp : evalPred parse lower e.pred data = some true)
    (hv : evalConv bt parse lower e.conv data = some v) : ValueOk e v := by
  obtain ⟨topic, target, pred, method, conv, once⟩ := e
  simp only [Entry.wf] at hwf
  simp only [ValueOk]
  cases pred with
  | between lo hi =>
    cases conv <;> cases method <;> simp at hwf
    · obtain ⟨x, hx, rfl⟩ := evalConv_toInt hv
      simp [evalPred, hx, PyNum.geQ, PyNum.leQ] at hp
      exact ⟨x.trunc, rfl, trunc_ge hwf.1 hp.1, trunc_le hwf.2 hp.2⟩
    · -- toFloat: an infinity or a nan fails one of the two comparisons
      simp only [evalPred, evalConv, Option.map_eq_some_iff] at hp hv
      obtain ⟨x, hx, rfl⟩ := hv
      cases x <;> simp [hx, PyNum.geQ, PyNum.leQ] at hp
      exact ⟨_, rfl, hp⟩
  | greaterEqual lo =>
    cases conv <;> cases method <;> simp at hwf
    obtain ⟨x, hx, rfl⟩ := evalConv_toInt hv
    simp [evalPred, hx, PyNum.geQ] at hp
    exact ⟨x.trunc, rfl, trunc_ge hwf hp⟩
  | inSet s ci =>
    cases ci <;> cases conv <;> cases method <;> simp at hwf <;> simp only [evalConv] at hv
    · exact ⟨_, (Option.some.inj hv).symm⟩
    · -- none: the payload names the trigger
      exact (Option.some.inj hv).symm
    · exact ⟨_, (Option.some.inj hv).symm⟩
  | always =>
    cases conv <;> cases method <;> simp at hwf
    simp only [evalConv] at hv
    exact ⟨_, (Option.some.inj hv).symm⟩

theorem method_ok {e : Entry} {data : String} (hwf : e.wf = true)
    (hp : evalPred parse lower e.pred data = some true) : MethodOk e (methodName e.method data) := by
  obtain ⟨topic, target, pred, method, conv, once⟩ := e
  cases method with
  | const n => rfl
  | identity =>
    -- `wf` admits `identity` only with an exact-match whitelist and no converter
    rcases pred with _ | _ | ⟨s, _ | _⟩ | _ <;> cases conv <;> simp [Entry.wf] at hwf
    exact ⟨s, rfl, by simpa [evalPred, methodName] using hp⟩

/-- C14(3), generic: along any sequence of deliveries a once-topic is told at most once, and not at all once it has been removed. -/
theorem run_once_at_most_once {t : String} (honce : (entryOf table t).any (·.once) = true) :
    ∀ (msgs : List (String × ByteArray)) (s : State),
      ((run table bt parse lower decode s msgs).filter (fun x => x.1 == t)).length ≤ if t ∈ s.removed then 0 else 1 := by
  intro msgs
  induction msgs with
  | nil => intro s; simp [run]
  | cons m rest ih =>
    intro s
    obtain ⟨t', p⟩ := m
    simp only [run, List.filter_append, List.length_append]
    rcases dispatch_cases table bt parse lower decode s t' p with h0 | ⟨e, data, v, hl, -, -, -, h1⟩
    · simpa [h0] using ih s
    · obtain ⟨-, rfl, hrem, he⟩ := lookup_some hl
      have := ih (if e.once then { removed := e.topic :: s.removed } else s)
      rw [h1]
      by_cases htt : e.topic = t
      · -- told now, for the first time, and removed
        subst htt
        rw [he, Option.any_some] at honce
        rw [if_pos honce, if_pos List.mem_cons_self] at this
        rw [if_pos honce, if_neg (by simpa using hrem)]
        simp
        omega
      · -- the tell of another topic is not counted, and its removal does not concern `t`
        have hs : t ∈ (if e.once then ({ removed := e.topic :: s.removed } : State) else s).removed ↔ t ∈ s.removed := by
          split <;> simp [Ne.symm htt]
        simpa [htt, hs] using this

/-! ### setter arithmetic (C14(5)) -/

theorem guardOkInt_sound {p : Prim} {lo hi k : Int} (h : guardOkInt p lo hi = true) (h1 : lo ≤ k) (h2 : k ≤ hi) :
    primSafeInt p k := by
  cases p with
  | td u =>
    simp only [guardOkInt, Bool.and_eq_true, decide_eq_true_eq] at h
    cases u <;> simp only [primSafeInt, tdOk, TdUnit.seconds_per] at h ⊢ <;> omega
  | hourReplace =>
    simp only [guardOkInt, Bool.and_eq_true, decide_eq_true_eq] at h
    simp only [primSafeInt]; omega
  | divByPeriod =>
    simp only [guardOkInt, decide_eq_true_eq] at h
    simp only [primSafeInt]; omega
  | strptimeGuarded | strptimeUnguarded | assertPeriodDuration | unknown w => simp [guardOkInt] at h

theorem guardOkEntry_sound {p : Prim} {e : Entry} {v : Val} (hk : p.isIntGuard = true)
    (h : guardOkEntry table p e = true) (hv : ValueOk e v) : ∃ k, v = .int k ∧ primSafeInt p k := by
  -- `guardOkEntry` is false on every row but `between … toInt`
  have hg : ∃ lo hi, e.pred = .between lo hi ∧ e.conv = .toInt ∧
      (lo.isInt && hi.isInt && guardOkInt p lo.num hi.num) = true := by
    cases p with
    | td u | hourReplace | divByPeriod =>
      simp only [guardOkEntry] at h
      split at h
      · exact ⟨_, _, ‹_›, ‹_›, h⟩
      · cases h
    | _ => cases hk
  obtain ⟨lo, hi, hp, hc, hg⟩ := hg
  simp only [Bool.and_eq_true] at hg
  simp only [ValueOk, hp, hc] at hv
  obtain ⟨k, rfl, h1, h2⟩ := hv
  exact ⟨k, rfl, guardOkInt_sound hg.2 ((Q.isInt_le_ofInt hg.1.1).1 h1) ((Q.ofInt_le_isInt hg.1.2).1 h2)⟩

theorem guardOk_sound {tmp : String × String × Prim} (h : guardOk table tmp = true) (hk : tmp.2.2.isIntGuard = true) :
    (∃ e ∈ table, e.target = tmp.1 ∧ e.method = .const tmp.2.1) ∧
    ∀ e ∈ table, e.target = tmp.1 → e.method = .const tmp.2.1 →
      ∀ v, ValueOk e v → ∃ k, v = .int k ∧ primSafeInt tmp.2.2 k := by
  simp only [guardOk, callers, Bool.and_eq_true, Bool.not_eq_true', List.isEmpty_eq_false_iff_exists_mem, List.all_eq_true,
    List.mem_filter, beq_iff_eq] at h
  exact ⟨h.1, fun e he ht hm v hv => guardOkEntry_sound hk (h.2 e ⟨he, ht, hm⟩) hv⟩

theorem divRound_pos {a b : Int} (hb : 0 < b) (h : b ≤ a) : 0 < divRoundHalfEven a b := by
  have h1 : 1 ≤ a / b := (Int.le_ediv_iff_mul_le hb).2 (by omega)
  unfold divRoundHalfEven
  simp only
  split
  · omega
  · split
    · omega
    · split <;> omega

end Poupool.Dispatch
