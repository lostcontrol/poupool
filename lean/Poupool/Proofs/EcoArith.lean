/-
  Arithmetic of `divNearest` (CPython's round-half-even division) and of `Timer`, the tests that end a phase (`elapsedOn`,
  `elapsedOff`) as inequalities, the equation of the `Filtration.duration` setter — helper lemmas for C10 / C11.
-/
import Poupool.Model.Eco

namespace Poupool.Eco

theorem divNearest_cases (a b : Int) : divNearest a b = a / b ∨ divNearest a b = a / b + 1 := by
  unfold divNearest; split <;> simp

theorem divNearest_bounds (a b : Int) (hb : 0 < b) :
    2 * (b * divNearest a b) ≤ 2 * a + b ∧ 2 * a - b ≤ 2 * (b * divNearest a b) := by
  have h1 := Int.emod_add_mul_ediv a b
  have h2 := Int.emod_nonneg a (Int.ne_of_gt hb)
  have h3 := Int.emod_lt_of_pos a hb
  unfold divNearest
  split
  · rw [Int.mul_add]
    constructor <;> omega
  · constructor <;> omega

theorem divNearest_mul_self (v q : Int) (hq : 0 < q) : divNearest (v * q) q = v := by
  unfold divNearest
  have h1 : v * q % q = 0 := Int.mul_emod_left v q
  have h2 : v * q / q = v := Int.mul_ediv_cancel v (Int.ne_of_gt hq)
  rw [h1, h2]
  split <;> omega

theorem divNearest_zero (b : Int) (hb : 0 < b) : divNearest 0 b = 0 := by
  have := divNearest_mul_self 0 b hb
  rwa [Int.zero_mul] at this

theorem divNearest_one (a : Int) : divNearest a 1 = a := by
  have := divNearest_mul_self a 1 (by decide)
  rwa [Int.mul_one] at this

theorem divNearest_mono (a a' b : Int) (hb : 0 < b) (h : a ≤ a') : divNearest a b ≤ divNearest a' b := by
  have hq : a / b ≤ a' / b := Int.ediv_le_ediv hb h
  have e1 := Int.emod_add_mul_ediv a b
  have e2 := Int.emod_add_mul_ediv a' b
  by_cases hlt : a / b < a' / b
  · rcases divNearest_cases a b with h1 | h1 <;> rcases divNearest_cases a' b with h2 | h2 <;> omega
  · have heq : a / b = a' / b := by omega
    rw [heq] at e1
    have hr : a % b ≤ a' % b := by omega
    unfold divNearest
    rw [heq]
    split <;> split <;> omega

theorem divNearest_nonneg (a b : Int) (ha : 0 ≤ a) (hb : 0 < b) : 0 ≤ divNearest a b := by
  have := divNearest_mono 0 a b hb ha
  rwa [divNearest_zero b hb] at this

/-- the assertion `period_duration > 0`: exactly when the daily duration is more than half a period count of µs -/
theorem divNearest_pos_iff (d p : Int) (hd : 0 ≤ d) (hp : 0 < p) : 0 < divNearest d p ↔ p < 2 * d := by
  by_cases hlt : d < p
  · have h1 : d / p = 0 := Int.ediv_eq_zero_of_lt hd hlt
    have h2 : d % p = d := Int.emod_eq_of_lt hd hlt
    unfold divNearest
    rw [h1, h2]
    split <;> omega
  · have h1 : 1 ≤ d / p := Int.le_ediv_of_mul_le hp (by omega)
    rcases divNearest_cases d p with h | h <;> constructor <;> intro <;> omega

theorem scale_bounds {x fnum fden : Int} (hx : 0 ≤ x) (h0 : 0 ≤ fnum) (h1 : fnum ≤ fden) (hd : 0 < fden) :
    0 ≤ scale x fnum fden ∧ scale x fnum fden ≤ x := by
  have := divNearest_mono _ _ fden hd (Int.mul_le_mul_of_nonneg_left h1 hx)
  rw [divNearest_mul_self x fden hd] at this
  exact ⟨divNearest_nonneg _ _ (Int.mul_nonneg hx h0) hd, this⟩

theorem scale_one (x : Int) : scale x 1 1 = x := by
  unfold scale; rw [Int.mul_one, divNearest_one]

theorem scale_zero (x : Int) : scale x 0 1 = 0 := by
  unfold scale; rw [Int.mul_zero, divNearest_one]

/-- a plan never has more periods than configured, as soon as `per * (per + 1) < 2 * delay` (then half a period count of
rounding is less than one period) -/
theorem periods_le {delay per D : Int} (hp : 0 < per) (hd : per * (per + 1) < 2 * delay) (hD : D ≤ delay) :
    max 1 (D / divNearest delay per) ≤ per := by
  have hb := divNearest_bounds delay per hp
  generalize divNearest delay per = q at hb ⊢
  rw [Int.mul_add, Int.mul_one] at hd
  have hq : per < 2 * q := by
    apply Int.not_le.mp
    intro h
    have := Int.mul_le_mul_of_nonneg_left h (Int.le_of_lt hp)
    rw [Int.mul_left_comm] at this
    omega
  have hlt : D < (per + 1) * q := by
    rw [Int.add_mul, Int.one_mul]
    omega
  have := Int.ediv_lt_of_lt_mul (by omega) hlt
  omega

/-- the settings the dispatcher lets through (at least a second, at most ten periods) meet that condition -/
theorem periods_le_settings {delay per D : Int} (hd : 1 * US ≤ delay) (hp1 : 1 ≤ per) (hp2 : per ≤ 10) (hD : D ≤ delay) :
    max 1 (D / divNearest delay per) ≤ per := by
  have hU : US = 1000000 := rfl
  have := Int.mul_le_mul hp2 (show per + 1 ≤ 11 by omega) (by omega) (by omega)
  exact periods_le hp1 (by omega) hD

/-- what `update` adds to the duration -/
def Timer.gain (t : Timer) (now fnum fden : Int) : Int :=
  match t.last with
  | some l => scale (now - l) fnum fden
  | none => 0

namespace Timer
variable (t : Timer) (now fnum fden : Int)

theorem update_eq : t.update now fnum fden = { t with duration := t.duration + t.gain now fnum fden, last := some now } := by
  unfold update gain
  cases t.last <;> simp

theorem delay_update : (t.update now fnum fden).delay = t.delay := by
  rw [update_eq]

theorem gain_none (h : t.last = none) : t.gain now fnum fden = 0 := by
  unfold gain
  rw [h]

theorem gain_zero : t.gain now 0 1 = 0 := by
  unfold gain
  cases t.last <;> simp [scale_zero]

theorem gain_one {l : Int} (h : t.last = some l) : t.gain now 1 1 = now - l := by
  unfold gain
  rw [h]
  exact scale_one _

end Timer

theorem EcoMode.elapsedOn_iff (e : EcoMode) :
    e.elapsedOn = true ↔ e.current.delay ≤ e.current.duration ∨ e.filtration.delay ≤ e.filtration.duration := by
  simp only [EcoMode.elapsedOn, Timer.elapsed, Bool.or_eq_true, decide_eq_true_eq]

theorem EcoMode.elapsedOff_iff (e : EcoMode) :
    e.elapsedOff = true ↔ e.current.delay ≤ e.current.duration ∧ ¬ e.filtration.delay ≤ e.filtration.duration := by
  simp only [EcoMode.elapsedOff, Timer.elapsed, Bool.and_eq_true, decide_eq_true_eq, Bool.not_eq_true', decide_eq_false_iff_not]

/-- The flag comes in as a hypothesis: Properties/C13.lean imports this file for `scale_one`, and its check must not depend on how the
    `Filtration.duration` setter is written. -/
theorem EcoMode.fltDuration_eq (hk : Generated.EcoConfig.keepElapsed = true) (e : EcoMode) (d : Int) :
    e.fltDuration d = { e with filtration := ⟨e.filtration.duration, none, d * US⟩, periodDuration := divNearest (d * US) e.period } := by
  simp only [EcoMode.fltDuration, hk, if_true, EcoMode.setDaily, EcoMode.recompute, Timer.setDelay, Timer.setDuration]

end Poupool.Eco
