/-
Helper lemmas for C20, clause "over any whole number of PWM periods at constant duty the pump's on-fraction equals the
duty to within two timer ticks per period": phase-length bounds of the PWM model at constant value / period /
min_runtime, no cancel, security cap not reached.

Ghost semantics.  A run is a state at a CYCLE BOUNDARY (`Boundary`: pump off, phase accumulator 0, `__last` = the instant
`t0` of the do_run that has just been executed: the first do_run after construction / after do_cancel, or any do_run
that has just switched the pump off) followed by a list `ds` of tick gaps in microseconds: the k-th further do_run
happens at `t0 + ds[0] + … + ds[k-1]`.  The pump is energised between two consecutive do_runs iff the earlier one left
`pumpOn = true` (the device is only written inside do_run).
-/
import Poupool.Proofs.PwmDuty

namespace Poupool.Pwm

theorem secs_add (a b : Int) : secs (a + b) = secs a + secs b := by unfold secs; grind
theorem secs_sub (a b : Int) : secs (a - b) = secs a - secs b := by unfold secs; grind
theorem secs_zero : secs 0 = 0 := by decide +kernel
theorem secs_nonneg {a : Int} (h : 0 ≤ a) : 0 ≤ secs a := secs_zero ▸ secs_mono h
theorem constrain_secs_self {t : Int} {hi : Rat} (h : 0 ≤ hi) : constrain (secs (t - t)) 0 hi = 0 := by
  rw [Int.sub_self, secs_zero]
  unfold constrain
  grind
theorem secs_lt {a b : Int} (h : a < b) : secs a < secs b := by
  have := Rat.intCast_lt_intCast.mpr h
  unfold secs; grind
theorem secs_natMul (n : Nat) (a : Int) : secs ((n : Int) * a) = (n : Rat) * secs a := by
  induction n with
  | zero => simp [secs_zero]
  | succ k ih =>
    have : ((k + 1 : Nat) : Int) * a = (k : Int) * a + a := by grind
    rw [this, secs_add, ih]; grind

structure F where
  s : PwmState
  /-- instant (µs) of the do_run at the cycle boundary the run starts from -/
  t0 : Int
  /-- instant of the most recent do_run -/
  clock : Int
  /-- instant of the do_run that started the phase in progress (`t0`, or the last do_run that switched the pump) -/
  phaseStart : Int
  /-- µs the pump device has been energised since `t0` -/
  onTime : Int
  /-- lengths (µs) of the completed on-pulses, most recent first -/
  pulses : List Int
  /-- lengths (µs) of the completed off-pauses, most recent first (the first one is measured from `t0`) -/
  pauses : List Int
  /-- some do_run since `t0` found the security timer elapsed -/
  capHit : Bool

/-- the security timer as the do_run at instant `t` consults it (`update(now)` when on, `update(now, 0)` when off) -/
def capAt (t : Int) (s : PwmState) : Bool :=
  match s.last with
  | some _ => (s.sec.update t (if s.state then 1 else 0)).elapsed
  | none => false

theorem capAt_of_some {t : Int} {s : PwmState} {l : Rat} (h : s.last = some l) :
    capAt t s = (s.sec.update t (if s.state then 1 else 0)).elapsed := by
  unfold capAt
  rw [h]

def F.begin (s : PwmState) (t0 : Int) : F :=
  { s := s, t0 := t0, clock := t0, phaseStart := t0, onTime := 0, pulses := [], pauses := [], capHit := false }

def stepF (c : Cfg) (f : F) (d : Int) : F :=
  let t := f.clock + d
  let s' := tick c t f.s
  { s := s', t0 := f.t0, clock := t
    phaseStart := if f.s.pumpOn = s'.pumpOn then f.phaseStart else t
    onTime := f.onTime + (if f.s.pumpOn then d else 0)
    pulses := if f.s.pumpOn = true ∧ s'.pumpOn = false then (t - f.phaseStart) :: f.pulses else f.pulses
    pauses := if f.s.pumpOn = false ∧ s'.pumpOn = true then (t - f.phaseStart) :: f.pauses else f.pauses
    capHit := f.capHit || capAt t f.s }

def runF (c : Cfg) (f : F) (ds : List Int) : F := ds.foldl (stepF c) f

/-- energised µs within [t0, x] for an instant `x` between the most recent do_run and the next one -/
def onUpTo (f : F) (x : Int) : Int := f.onTime + (if f.s.pumpOn then x - f.clock else 0)

structure Boundary (v P m : Rat) (s : PwmState) (t0 : Int) : Prop where
  hv : s.value = v
  hP : s.period = P
  hm : s.minRuntime = m
  hlast : s.last = some (secs t0)
  hdur : s.duration = 0
  hstate : s.state = false
  hpump : s.pumpOn = false

theorem boundary_of_idle (c : Cfg) (t0 : Int) {s : PwmState} (hl : s.last = none) (hd : s.duration = 0)
    (hs : s.state = false) (hp : s.pumpOn = false) : Boundary s.value s.period s.minRuntime (tick c t0 s) t0 := by
  rw [tick_of_none c t0 hl, dailyReset_eq]
  exact ⟨rfl, rfl, rfl, rfl, hd, hs, hp⟩

variable {v P m on : Rat} {Δ : Int} {f : F} {d : Int} {ds : List Int}

theorem stepF_stay {c : Cfg} (h : (stepF c f d).s.pumpOn = f.s.pumpOn) :
    (stepF c f d).phaseStart = f.phaseStart ∧ (stepF c f d).pulses = f.pulses ∧ (stepF c f d).pauses = f.pauses := by
  have hq : (tick c (f.clock + d) f.s).pumpOn = f.s.pumpOn := h
  cases hp : f.s.pumpOn <;> simp [stepF, hq, hp]

theorem stepF_on {c : Cfg} (hp : f.s.pumpOn = false) (hp' : (stepF c f d).s.pumpOn = true) :
    (stepF c f d).phaseStart = (stepF c f d).clock ∧ (stepF c f d).pulses = f.pulses ∧
    (stepF c f d).pauses = (f.clock + d - f.phaseStart) :: f.pauses := by
  have hq : (tick c (f.clock + d) f.s).pumpOn = true := hp'
  simp [stepF, hq, hp]

theorem stepF_off {c : Cfg} (hp : f.s.pumpOn = true) (hp' : (stepF c f d).s.pumpOn = false) :
    (stepF c f d).phaseStart = (stepF c f d).clock ∧ (stepF c f d).pulses = (f.clock + d - f.phaseStart) :: f.pulses ∧
    (stepF c f d).pauses = f.pauses := by
  have hq : (tick c (f.clock + d) f.s).pumpOn = false := hp'
  simp [stepF, hq, hp]

/-! ### bookkeeping of the ghost: holds whatever a do_run does (`stepF` reads only `pumpOn` before and after) -/

structure Book (f : F) : Prop where
  hord : f.t0 ≤ f.phaseStart ∧ f.phaseStart ≤ f.clock
  hon : f.onTime = f.pulses.sum + (if f.s.pumpOn then f.clock - f.phaseStart else 0)
  hel : f.clock - f.t0 = f.pulses.sum + f.pauses.sum + (f.clock - f.phaseStart)
  hlen : f.pauses.length = f.pulses.length + (if f.s.pumpOn then 1 else 0)

theorem Book.step (c : Cfg) (h : Book f) (hd : 0 ≤ d) : Book (stepF c f d) := by
  obtain ⟨hord, hon, hel, hlen⟩ := h
  unfold stepF
  -- four transitions of the pump, four fields: integer arithmetic once the `if`s are decided
  cases hp : f.s.pumpOn <;> cases hp' : (tick c (f.clock + d) f.s).pumpOn <;> refine ⟨?_, ?_, ?_, ?_⟩ <;>
    simp only [hp, hp', if_true, if_false, Bool.false_eq_true, reduceCtorEq, and_self, and_false, false_and,
      List.sum_cons, List.length_cons] at hon hlen ⊢ <;>
    omega

/-! ### the PWM side: constant duty, period and minimum run time, accumulator = clamped age of the phase -/

structure Base (v P m : Rat) (f : F) : Prop where
  hv : f.s.value = v
  hP : f.s.period = P
  hm : f.s.minRuntime = m
  hlast : f.s.last = some (secs f.clock)
  hst : f.s.pumpOn = f.s.state
  hdur : f.s.duration = constrain (secs (f.clock - f.phaseStart)) 0 P
  book : Book f

theorem base_begin {s : PwmState} {t0 : Int} (h : Boundary v P m s t0) (hP0 : 0 ≤ P) :
    Base v P m (F.begin s t0) := by
  obtain ⟨hv, hP, hm, hlast, hdur, hstate, hpump⟩ := h
  refine ⟨hv, hP, hm, hlast, hpump.trans hstate.symm, hdur.trans (constrain_secs_self hP0).symm,
    ⟨Int.le_refl _, Int.le_refl _⟩, ?_, ?_, ?_⟩ <;> simp [F.begin, hpump]

theorem Base.onOf (hb : Base v P m f) : onOf f.s = dutyOn v P m := by
  unfold Pwm.onOf
  rw [hb.hv, hb.hP, hb.hm]

def ageAt (f : F) (d : Int) : Rat := secs (f.clock + d - f.phaseStart)

theorem ageAt_eq (f : F) (d : Int) : ageAt f d = secs (f.clock - f.phaseStart) + secs d := by
  rw [← secs_add]
  exact congrArg secs (by omega)

theorem constrain_add_nonneg {a b P : Rat} (ha : 0 ≤ a) (hb : 0 ≤ b) (hP : 0 ≤ P) :
    constrain (constrain a 0 P + b) 0 P = constrain (a + b) 0 P := by
  unfold constrain
  grind

theorem le_constrain_iff {a θ P : Rat} (ha : 0 ≤ a) (hθ : θ ≤ P) : θ ≤ constrain a 0 P ↔ θ ≤ a := by
  unfold constrain
  grind

theorem stepF_spec (c : Cfg) (hb : Base v P m f) (hd : 0 ≤ d) (hP0 : 0 ≤ P) :
    Base v P m (stepF c f d) ∧
    ((stepF c f d).s.pumpOn = true ↔ capAt (f.clock + d) f.s = false ∧
      if f.s.pumpOn then ¬ (dutyOn v P m ≤ constrain (ageAt f d) 0 P ∧ m ≤ constrain (ageAt f d) 0 P ∧ dutyOn v P m ≠ P)
      else P - dutyOn v P m ≤ constrain (ageAt f d) 0 P ∧ dutyOn v P m ≠ 0) := by
  have hon := hb.onOf
  obtain ⟨hv, hP, hm, hlast, hst, hdur, hbook⟩ := hb
  obtain ⟨f1, f2, f3, f4, _⟩ := tick_frame c (f.clock + d) f.s
  obtain ⟨p1, p2, p3⟩ := tick_phase c (f.clock + d) hlast hst
  have hD : durAt (f.clock + d) (secs f.clock) f.s = constrain (ageAt f d) 0 P := by
    rw [durAt, hdur, hP, ageAt_eq, secs_add,
      ← constrain_add_nonneg (secs_nonneg (by have := hbook.hord; omega)) (secs_nonneg hd) hP0]
    grind
  unfold Done Due at p2
  rw [← capAt_of_some hlast, hD, hon, hP, hm, ← hst] at p2
  rw [hD] at p3
  refine ⟨⟨f4.trans hv, f2.trans hP, f3.trans hm, f1, p1, ?_, hbook.step c hd⟩, ?_⟩
  · -- the accumulator restarts exactly when `phaseStart` moves
    simp only [stepF]
    rw [p3, ← p1, ← hst]
    split
    · rfl
    · exact (constrain_secs_self hP0).symm
  · exact p1 ▸ p2

theorem runF_cons (c : Cfg) (f : F) (d : Int) (ds : List Int) : runF c f (d :: ds) = runF c (stepF c f d) ds := rfl

def Gaps (Δ : Int) (ds : List Int) : Prop := ∀ d ∈ ds, 0 ≤ d ∧ d ≤ Δ

instance (Δ : Int) (ds : List Int) : Decidable (Gaps Δ ds) := by unfold Gaps; infer_instance

theorem Base.run_induct {I : F → Prop} {c : Cfg} (hP0 : 0 ≤ P)
    (step : ∀ f d, Base v P m f → I f → 0 ≤ d → d ≤ Δ → I (stepF c f d))
    (hb : Base v P m f) (h : I f) (hg : Gaps Δ ds) :
    Base v P m (runF c f ds) ∧ I (runF c f ds) :=
  List.foldlRecOn (motive := fun f => Base v P m f ∧ I f) ds (stepF c) ⟨hb, h⟩ fun f hf d hd =>
    ⟨(stepF_spec c hf.1 (hg d hd).1 hP0).1, step f d hf.1 hf.2 (hg d hd).1 (hg d hd).2⟩

theorem base_run (c : Cfg) (hP0 : 0 ≤ P) (hb : Base v P m f) (hg : Gaps Δ ds) :
    Base v P m (runF c f ds) ∧ (runF c f ds).t0 = f.t0 :=
  Base.run_induct (I := fun f' => f'.t0 = f.t0) hP0 (fun _ _ _ h _ _ => h) hb rfl hg

theorem capHit_step {c : Cfg} (h : (stepF c f d).capHit = false) :
    f.capHit = false ∧ capAt (f.clock + d) f.s = false := Bool.or_eq_false_iff.mp h

theorem Base.run_nocap {I : F → Prop} {c : Cfg} (hP0 : 0 ≤ P)
    (step : ∀ f d, Base v P m f → I f → 0 ≤ d → d ≤ Δ → capAt (f.clock + d) f.s = false → I (stepF c f d))
    (hb : Base v P m f) (h : f.capHit = false → I f) (hg : Gaps Δ ds)
    (hc : (runF c f ds).capHit = false) : I (runF c f ds) :=
  (Base.run_induct (I := fun f => f.capHit = false → I f) hP0
    (fun f d hb h hd0 hdΔ hc => step f d hb (h (capHit_step hc).1) hd0 hdΔ (capHit_step hc).2)
    hb h hg).2 hc

/-! ### the non-degenerate case 0 < dutyOn' < period -/

structure NonDeg (on P : Rat) (Δ : Int) (f : F) : Prop where
  hage : secs (f.clock - f.phaseStart) < if f.s.pumpOn then on else P - on
  hpulses : ∀ p ∈ f.pulses, on ≤ secs p ∧ secs p < on + secs Δ
  hpauses : ∀ p ∈ f.pauses, P - on ≤ secs p ∧ secs p < P - on + secs Δ

theorem nondeg_begin {s : PwmState} {t0 : Int} (h1 : on < P) (hp : s.pumpOn = false) :
    NonDeg on P Δ (F.begin s t0) := by
  refine ⟨?_, (fun _ h => nomatch h), (fun _ h => nomatch h)⟩
  show secs (t0 - t0) < if s.pumpOn then on else P - on
  rw [hp, Int.sub_self, secs_zero]
  grind

theorem nondeg_step (c : Cfg) (h0 : 0 < dutyOn v P m) (h1 : dutyOn v P m < P)
    (hm : m ≤ dutyOn v P m) (f : F) (d : Int) (hb : Base v P m f) (hn : NonDeg (dutyOn v P m) P Δ f)
    (hd0 : 0 ≤ d) (hdΔ : d ≤ Δ) (hcap : capAt (f.clock + d) f.s = false) :
    NonDeg (dutyOn v P m) P Δ (stepF c f d) := by
  have hpump := (stepF_spec c hb hd0 (show 0 ≤ P by grind)).2
  have hage := hn.hage
  have ha : 0 ≤ ageAt f d := secs_nonneg (by have := hb.book.hord; omega)
  -- both thresholds lie within the clamp's range, so the clamp can be forgotten
  rw [le_constrain_iff ha (Rat.le_of_lt h1), le_constrain_iff ha (show m ≤ P by grind),
    le_constrain_iff ha (show P - dutyOn v P m ≤ P by grind), hcap] at hpump
  have e1 := secs_mono hdΔ
  have e2 := ageAt_eq f d
  have e3 : secs (f.clock + d - f.phaseStart) = ageAt f d := rfl
  have e4 : secs ((stepF c f d).clock - f.phaseStart) = ageAt f d := rfl
  cases hp : f.s.pumpOn <;> cases hp' : (stepF c f d).s.pumpOn <;>
    simp only [hp, hp', Bool.false_eq_true, if_false, if_true, true_and, true_iff, false_iff] at hpump hage
  · -- the pause goes on: it is not yet due
    obtain ⟨g1, g2, g3⟩ := stepF_stay (hp'.trans hp.symm)
    refine ⟨?_, g2 ▸ hn.hpulses, g3 ▸ hn.hpauses⟩
    rw [hp', g1]
    grind
  · -- the pause ends: it was due, and a gap ago it was not
    obtain ⟨g1, g2, g3⟩ := stepF_on hp hp'
    refine ⟨?_, g2 ▸ hn.hpulses, g3 ▸ List.forall_mem_cons.mpr ⟨by grind, hn.hpauses⟩⟩
    rw [hp', g1, Int.sub_self, secs_zero]
    grind
  · -- the pulse ends: it is done, and a gap ago it was not
    obtain ⟨g1, g2, g3⟩ := stepF_off hp hp'
    refine ⟨?_, g2 ▸ List.forall_mem_cons.mpr ⟨by grind, hn.hpulses⟩, g3 ▸ hn.hpauses⟩
    rw [hp', g1, Int.sub_self, secs_zero]
    grind
  · -- the pulse goes on: it is not yet done
    obtain ⟨g1, g2, g3⟩ := stepF_stay (hp'.trans hp.symm)
    refine ⟨?_, g2 ▸ hn.hpulses, g3 ▸ hn.hpauses⟩
    rw [hp', g1]
    grind

theorem sum_bounds {lo hi : Rat} {l : List Int} (h : ∀ p ∈ l, lo ≤ secs p ∧ secs p < hi) :
    (l.length : Rat) * lo ≤ secs l.sum ∧ secs l.sum ≤ (l.length : Rat) * hi ∧
    (l ≠ [] → secs l.sum < (l.length : Rat) * hi) := by
  induction l with
  | nil => simp [secs_zero]
  | cons p l ih =>
    obtain ⟨i1, i2, _⟩ := ih (fun x hx => h x (by simp [hx]))
    obtain ⟨p1, p2⟩ := h p (by simp)
    simp only [List.sum_cons, secs_add, List.length_cons, ne_eq, reduceCtorEq, not_false_eq_true, forall_const]
    refine ⟨?_, ?_, ?_⟩ <;> grind

/-- the most recent do_run is a cycle boundary: it switched the pump off (or it is the one at `t0`) -/
def AtBoundary (f : F) : Prop := f.s.pumpOn = false ∧ f.phaseStart = f.clock

instance (f : F) : Decidable (AtBoundary f) := by unfold AtBoundary; infer_instance

/-- Over a window of do_runs that starts and ends at a cycle boundary the books close: no phase in progress, as many
pauses as pulses. -/
theorem cycles_parts (hb : Base v P m f) (hn : NonDeg on P Δ f) (hat : AtBoundary f) :
    ((f.pulses.length : Rat) * on ≤ secs f.onTime ∧ secs f.onTime ≤ (f.pulses.length : Rat) * (on + secs Δ) ∧
      (f.pulses ≠ [] → secs f.onTime < (f.pulses.length : Rat) * (on + secs Δ))) ∧
    ((f.pulses.length : Rat) * (P - on) ≤ secs (f.clock - f.t0 - f.onTime) ∧
      secs (f.clock - f.t0 - f.onTime) ≤ (f.pulses.length : Rat) * (P - on + secs Δ) ∧
      (f.pulses ≠ [] → secs (f.clock - f.t0 - f.onTime) < (f.pulses.length : Rat) * (P - on + secs Δ))) := by
  obtain ⟨hp, hps⟩ := hat
  obtain ⟨_, e1, e2, e3⟩ := hb.book
  simp only [hp, Bool.false_eq_true, if_false, Int.add_zero, Nat.add_zero] at e1 e3
  have a := sum_bounds hn.hpulses
  have b := sum_bounds hn.hpauses
  rw [← List.length_pos_iff, e3, List.length_pos_iff] at b
  rw [e1, show f.clock - f.t0 - f.pulses.sum = f.pauses.sum by omega]
  exact ⟨a, b⟩

theorem cycles_bounds (hb : Base v P m f) (hn : NonDeg on P Δ f) (hat : AtBoundary f) :
    (f.pulses.length : Rat) * P ≤ secs (f.clock - f.t0) ∧
    secs (f.clock - f.t0) ≤ (f.pulses.length : Rat) * (P + 2 * secs Δ) ∧
    (f.pulses ≠ [] → secs (f.clock - f.t0) < (f.pulses.length : Rat) * (P + 2 * secs Δ)) := by
  obtain ⟨⟨a1, a2, a3⟩, b1, b2, b3⟩ := cycles_parts hb hn hat
  rw [show f.clock - f.t0 = f.onTime + (f.clock - f.t0 - f.onTime) by omega, secs_add]
  refine ⟨?_, ?_, fun h => ?_⟩
  · grind
  · grind
  · have := a3 h
    have := b3 h
    grind

theorem div_lt_div_of_mul {x T y P : Rat} (hT : 0 < T) (hP : 0 < P) (h : x * P < y * T) : x / T < y / P := by
  rw [Rat.div_lt_iff hT, show y / P * T = y * T / P by grind, Rat.lt_div_iff hP]
  exact h

/-- pure arithmetic behind `cycles_fraction`: `n` cycles with on-total `A` and off-total `B` -/
theorem fraction_arith {n A B on off δ : Rat} (hn : 0 < n) (hon : 0 < on) (hoff : 0 < off) (hδ : 0 ≤ δ)
    (hA1 : n * on ≤ A) (hA2 : A < n * (on + δ)) (hB1 : n * off ≤ B) (hB2 : B < n * (off + δ)) :
    A / (A + B) - on / (on + off) < δ / (on + off) ∧ on / (on + off) - A / (A + B) < δ / (on + off) := by
  have hn0 : 0 ≤ n := Rat.le_of_lt hn
  have hP : 0 < on + off := by grind
  have hnP : n * (on + off) ≤ A + B := by grind
  have hT : 0 < A + B := Std.lt_of_lt_of_le (Rat.mul_pos hn hP) hnP
  have h1 : A * off < (n * (on + δ)) * off := Rat.mul_lt_mul_of_pos_right hA2 hoff
  have h2 : on * (n * off) ≤ on * B := Rat.mul_le_mul_of_nonneg_left hB1 (Rat.le_of_lt hon)
  have h3 : δ * (n * (on + off)) ≤ δ * (A + B) := Rat.mul_le_mul_of_nonneg_left hnP hδ
  have h4 : 0 ≤ δ * (n * on) := Rat.mul_nonneg hδ (Rat.mul_nonneg hn0 (Rat.le_of_lt hon))
  have h5 : 0 ≤ δ * (n * off) := Rat.mul_nonneg hδ (Rat.mul_nonneg hn0 (Rat.le_of_lt hoff))
  have k1 : on * B < on * (n * (off + δ)) := Rat.mul_lt_mul_of_pos_left hB2 hon
  have k2 : (n * on) * off ≤ A * off := Rat.mul_le_mul_of_nonneg_right hA1 (Rat.le_of_lt hoff)
  have d1 : A / (A + B) < (on + δ) / (on + off) := div_lt_div_of_mul hT hP (by grind)
  have d2 : (on - δ) / (on + off) < A / (A + B) := div_lt_div_of_mul hP hT (by grind)
  constructor <;> grind

theorem cycles_fraction (hb : Base v P m f) (hn : NonDeg on P Δ f) (hat : AtBoundary f) (h0 : 0 < on) (h1 : on < P)
    (hΔ : 0 ≤ Δ) (hne : f.pulses ≠ []) :
    secs f.onTime / secs (f.clock - f.t0) - on / P < secs Δ / P ∧
    on / P - secs f.onTime / secs (f.clock - f.t0) < secs Δ / P := by
  obtain ⟨⟨a1, _, a3⟩, b1, _, b3⟩ := cycles_parts hb hn hat
  have := fraction_arith (Rat.natCast_pos.mpr (List.length_pos_iff.mpr hne)) h0 (show 0 < P - on by grind)
    (secs_nonneg hΔ) a1 (a3 hne) b1 (b3 hne)
  rw [← secs_add, show on + (P - on) = P by grind,
    show f.onTime + (f.clock - f.t0 - f.onTime) = f.clock - f.t0 by omega] at this
  exact this

/-! ### the degenerate cases -/

/-- dutyOn' = 0: never on -/
structure ZeroI (f : F) : Prop where
  hp : f.s.pumpOn = false
  hpl : f.pulses = []
  hpa : f.pauses = []

theorem zero_step (c : Cfg) (hb : Base v P m f) (h0 : dutyOn v P m = 0) (hz : ZeroI f) : ZeroI (stepF c f d) := by
  have hq : (stepF c f d).s.pumpOn = f.s.pumpOn := (tick_stays_off c _ (hb.onOf.trans h0) (hb.hst ▸ hz.hp)).2
  obtain ⟨_, g2, g3⟩ := stepF_stay hq
  exact ⟨hq.trans hz.hp, g2.trans hz.hpl, g3.trans hz.hpa⟩

theorem zero_run (c : Cfg) (hP0 : 0 ≤ P) (h0 : dutyOn v P m = 0) (hb : Base v P m f) (hz : ZeroI f)
    (hg : Gaps Δ ds) : ZeroI (runF c f ds) :=
  (Base.run_induct hP0 (fun _ _ hb hz _ _ => zero_step c hb h0 hz) hb hz hg).2

theorem ZeroI.onTime (hb : Base v P m f) (hz : ZeroI f) : f.onTime = 0 := by
  have := hb.book.hon
  simpa [hz.hp, hz.hpl] using this

/-- dutyOn' = period: off until the second do_run, whose gap is the only pause, then on for ever -/
def FullI (Δ : Int) (f : F) : Prop :=
  f.pulses = [] ∧ ((f.s.pumpOn = false ∧ f.clock = f.t0 ∧ f.pauses = []) ∨
    (f.s.pumpOn = true ∧ ∃ p, f.pauses = [p] ∧ 0 ≤ p ∧ p ≤ Δ))

theorem full_step (c : Cfg) (hP : 0 < P) (h1 : dutyOn v P m = P)
    (hb : Base v P m f) (hf : FullI Δ f) (hd0 : 0 ≤ d) (hdΔ : d ≤ Δ)
    (hcap : capAt (f.clock + d) f.s = false) : FullI Δ (stepF c f d) ∧ (stepF c f d).s.pumpOn = true := by
  have hP0 : 0 ≤ P := Rat.le_of_lt hP
  have hD := (constrain_bounds (ageAt f d) 0 P hP0).1
  -- a pulse of length `period` is never done, and a pause of length 0 is over at once
  have hq : (stepF c f d).s.pumpOn = true := by
    rw [(stepF_spec c hb hd0 hP0).2, h1, hcap]
    split <;> grind
  obtain ⟨g1, g2⟩ := hf
  rcases g2 with ⟨hp, k1, k2⟩ | ⟨hp, k⟩
  · obtain ⟨_, e2, e3⟩ := stepF_on hp hq
    have := hb.book.hord
    exact ⟨⟨e2.trans g1, Or.inr ⟨hq, _, e3.trans (by rw [k2]), by omega, by omega⟩⟩, hq⟩
  · obtain ⟨_, e2, e3⟩ := stepF_stay (hq.trans hp.symm)
    exact ⟨⟨e2.trans g1, Or.inr ⟨hq, e3 ▸ k⟩⟩, hq⟩

theorem full_run (c : Cfg) (hP : 0 < P) (h1 : dutyOn v P m = P)
    (hb : Base v P m f) (hf : FullI Δ f) (hg : Gaps Δ ds) (hc : (runF c f ds).capHit = false) :
    FullI Δ (runF c f ds) ∧ (ds ≠ [] → (runF c f ds).s.pumpOn = true) := by
  have hP0 : 0 ≤ P := Rat.le_of_lt hP
  cases ds with
  | nil => exact ⟨hf, fun h => absurd rfl h⟩
  | cons d ds =>
    -- the first do_run switches the pump on, and every further one finds it on
    obtain ⟨hd, hg'⟩ := List.forall_mem_cons.mp hg
    have := Base.run_nocap (I := fun f => FullI Δ f ∧ f.s.pumpOn = true) hP0
      (fun _ _ hb hf => full_step c hP h1 hb hf.1) (stepF_spec c hb hd.1 hP0).1
      (fun hc => full_step c hP h1 hb hf hd.1 hd.2 (capHit_step hc).2) hg' hc
    exact ⟨this.1, fun _ => this.2⟩

theorem full_bounds (hb : Base v P m f) (hf : FullI Δ f) {x : Int} (hx0 : f.clock ≤ x) (hx1 : x ≤ f.clock + Δ) :
    0 ≤ onUpTo f x ∧ x - f.t0 - Δ ≤ onUpTo f x ∧ onUpTo f x ≤ x - f.t0 := by
  obtain ⟨g1, g2⟩ := hf
  obtain ⟨e0, e1, e2, _⟩ := hb.book
  rw [g1] at e1 e2
  unfold onUpTo
  rcases g2 with ⟨hp, k1, k2⟩ | ⟨hp, p, k1, k2, k3⟩
  · simp only [hp, k2, if_false, Bool.false_eq_true, List.sum_nil] at e1 e2 ⊢
    omega
  · simp only [hp, k1, if_true, List.sum_nil, List.sum_cons] at e1 e2 ⊢
    omega

/-! ### a sufficient condition for "the security cap is not reached" -/

def SecOK (f : F) : Prop := (f.s.sec.last = none ∨ f.s.sec.last = some f.clock) ∧ 0 ≤ f.s.sec.duration

theorem SecOK.step (c : Cfg) (hb : Base v P m f) (hs : SecOK f) (hd : 0 ≤ d) :
    SecOK (stepF c f d) ∧ (stepF c f d).s.sec.duration ≤ f.s.sec.duration + d ∧
    (stepF c f d).s.sec.delay = f.s.sec.delay ∧
    (f.s.sec.duration + d < f.s.sec.delay → capAt (f.clock + d) f.s = false) := by
  obtain ⟨hs1, hs2⟩ := hs
  have hupd : 0 ≤ (f.s.sec.update (f.clock + d) (if f.s.state then 1 else 0)).duration ∧
      (f.s.sec.update (f.clock + d) (if f.s.state then 1 else 0)).duration ≤ f.s.sec.duration + d := by
    rw [Timer.update_duration]
    rcases hs1 with h | h <;> rw [h] <;> cases f.s.state <;> simp <;> omega
  have hcap : f.s.sec.duration + d < f.s.sec.delay → capAt (f.clock + d) f.s = false := fun h => by
    rw [capAt_of_some hb.hlast, Timer.elapsed_eq_false]
    show _ < f.s.sec.delay
    omega
  unfold SecOK
  rw [show (stepF c f d).s.sec = _ from tick_sec c (f.clock + d) hb.hlast]
  split
  · exact ⟨⟨Or.inl rfl, Int.le_refl 0⟩, show (0 : Int) ≤ _ by omega, rfl, hcap⟩
  · exact ⟨⟨Or.inr rfl, hupd.1⟩, hupd.2, rfl, hcap⟩

theorem Gaps.sum_nonneg (hg : Gaps Δ ds) : 0 ≤ ds.sum := by
  induction ds with
  | nil => exact Int.le_refl 0
  | cons d ds ih =>
    obtain ⟨hd, hg'⟩ := List.forall_mem_cons.mp hg
    have := ih hg'
    rw [List.sum_cons]
    omega

theorem nocap_run (c : Cfg) (hP0 : 0 ≤ P) (hb : Base v P m f) (hs : SecOK f) (hg : Gaps Δ ds)
    (hbud : f.s.sec.duration + ds.sum < f.s.sec.delay) : (runF c f ds).capHit = f.capHit := by
  induction ds generalizing f with
  | nil => rfl
  | cons d ds ih =>
    obtain ⟨hd, hg'⟩ := List.forall_mem_cons.mp hg
    obtain ⟨s1, s2, s3, s4⟩ := hs.step c hb hd.1
    have := Gaps.sum_nonneg hg'
    rw [List.sum_cons] at hbud
    rw [runF_cons, ih (stepF_spec c hb hd.1 hP0).1 s1 hg' (by omega)]
    show (f.capHit || _) = _
    rw [s4 (by omega), Bool.or_false]

/-! ### wall-clock windows [t0, t0 + n·period] -/

/-- Arithmetic of a window that ends inside a phase of kind X (nominal length `x`), the other kind being Y (`y`):
`k` completed X-phases totalling `SX`, `j ∈ {k, k+1}` completed Y-phases totalling `SY`, `r` of the phase in progress,
all within `n` periods. -/
theorem window_arith {k j n : Nat} {x y δ SX SY r : Rat} (hx : 0 ≤ x) (hy : 0 ≤ y) (hδ : 0 ≤ δ)
    (hkj : k ≤ j) (hjk : j ≤ k + 1) (hr0 : 0 ≤ r) (hr : r ≤ x + δ)
    (hX0 : (k : Rat) * x ≤ SX) (hX : SX ≤ (k : Rat) * (x + δ))
    (hY0 : (j : Rat) * y ≤ SY) (hY : SY ≤ (j : Rat) * (y + δ))
    (hw : SX + SY + r ≤ (n : Rat) * (x + y)) :
    SX + r ≤ (n : Rat) * (x + δ) ∧ SY ≤ (n : Rat) * (y + δ) := by
  rcases Nat.lt_or_ge k n with h | h
  · -- fewer than `n` phases of kind X are completed: with the one in progress, at most `n` of either kind have started
    have m1 := Rat.mul_le_mul_of_nonneg_right (Rat.natCast_le_natCast.mpr (show k + 1 ≤ n from h))
      (show 0 ≤ x + δ by grind)
    have m2 := Rat.mul_le_mul_of_nonneg_right (Rat.natCast_le_natCast.mpr (show j ≤ n by omega))
      (show 0 ≤ y + δ by grind)
    constructor <;> grind
  · -- `n` phases of either kind are completed: their nominal lengths alone fill the window
    have m1 := Rat.mul_le_mul_of_nonneg_right (Rat.natCast_le_natCast.mpr h) hx
    have m2 := Rat.mul_le_mul_of_nonneg_right (Rat.natCast_le_natCast.mpr (show n ≤ j by omega)) hy
    have m3 := Rat.mul_nonneg (Rat.natCast_nonneg (a := n)) hδ
    constructor <;> grind

theorem wall_bounds (hb : Base v P m f) (hn : NonDeg on P Δ f) (h0 : 0 < on) (h1 : on < P) {x : Int}
    (hx0 : f.clock ≤ x) (hx1 : x ≤ f.clock + Δ) {n : Nat} (hw : secs (x - f.t0) ≤ (n : Rat) * P) :
    secs (onUpTo f x) ≤ (n : Rat) * (on + secs Δ) ∧
    secs (x - f.t0 - onUpTo f x) ≤ (n : Rat) * (P - on + secs Δ) := by
  obtain ⟨a1, a2, _⟩ := sum_bounds hn.hpulses
  obtain ⟨b1, b2, _⟩ := sum_bounds hn.hpauses
  obtain ⟨ho, e1, e2, e3⟩ := hb.book
  have hage := hn.hage
  have hδ := secs_nonneg (show 0 ≤ Δ by omega)
  have hr0 : 0 ≤ secs (x - f.phaseStart) := secs_nonneg (by omega)
  have hr1 : secs (x - f.phaseStart) ≤ secs (f.clock - f.phaseStart) + secs Δ :=
    secs_add _ _ ▸ secs_mono (by omega)
  have hoff : 0 ≤ P - on := by grind
  rw [show x - f.t0 = f.pulses.sum + f.pauses.sum + (x - f.phaseStart) by omega, secs_add, secs_add] at hw
  unfold onUpTo
  cases hp : f.s.pumpOn <;> simp only [hp, if_true, if_false, Bool.false_eq_true, Nat.add_zero] at e1 e3 hage ⊢
  · -- the window ends inside a pause: as many pulses as completed pauses
    have := window_arith (n := n) (k := f.pauses.length) (j := f.pulses.length) hoff
      (Rat.le_of_lt h0) hδ (by omega) (by omega) hr0 (by grind) b1 b2 a1 a2 (by grind)
    rw [show f.onTime + 0 = f.pulses.sum by omega,
      show x - f.t0 - f.pulses.sum = f.pauses.sum + (x - f.phaseStart) by omega, secs_add]
    exact ⟨this.2, this.1⟩
  · -- the window ends inside a pulse: one more pause than completed pulses
    have := window_arith (n := n) (k := f.pulses.length) (j := f.pauses.length) (Rat.le_of_lt h0)
      hoff hδ (by omega) (by omega) hr0 (by grind) a1 a2 b1 b2 (by grind)
    rw [show f.onTime + (x - f.clock) = f.pulses.sum + (x - f.phaseStart) by omega,
      show x - f.t0 - (f.pulses.sum + (x - f.phaseStart)) = f.pauses.sum by omega, secs_add]
    exact this

/-! ### all duties: the three cases of a run from a cycle boundary -/

theorem dutyOn_cases {v P m : Rat} (hv0 : 0 ≤ v) (hv1 : v ≤ 1) (hm0 : 0 ≤ m) (hm : m ≤ P) :
    dutyOn v P m = 0 ∨ dutyOn v P m = P ∨ (0 < dutyOn v P m ∧ dutyOn v P m < P ∧ m ≤ dutyOn v P m) := by
  have := dutyOn_range hv0 hv1 hm0 hm
  grind

theorem run_cases (c : Cfg) {s : PwmState} {t0 : Int} (hs : Boundary v P m s t0)
    (hv0 : 0 ≤ v) (hv1 : v ≤ 1) (hP : 0 < P) (hm0 : 0 ≤ m) (hm : m ≤ P)
    (hg : Gaps Δ ds) (hf : runF c (F.begin s t0) ds = f) (hcap : f.capHit = false) :
    Base v P m f ∧ f.t0 = t0 ∧
    ((dutyOn v P m = 0 ∧ ZeroI f) ∨
     (dutyOn v P m = P ∧ FullI Δ f ∧ (ds ≠ [] → f.s.pumpOn = true)) ∨
     (0 < dutyOn v P m ∧ dutyOn v P m < P ∧ NonDeg (dutyOn v P m) P Δ f)) := by
  subst hf
  have hP0 : 0 ≤ P := Rat.le_of_lt hP
  have hb0 := base_begin hs hP0
  obtain ⟨hb, ht⟩ := base_run c hP0 hb0 hg
  refine ⟨hb, ht, ?_⟩
  rcases dutyOn_cases hv0 hv1 hm0 hm with h | h | ⟨h0, h1, h2⟩
  · exact Or.inl ⟨h, zero_run c hP0 h hb0 ⟨hs.hpump, rfl, rfl⟩ hg⟩
  · exact Or.inr (Or.inl ⟨h, full_run c hP h hb0 ⟨rfl, Or.inl ⟨hs.hpump, rfl, rfl⟩⟩ hg hcap⟩)
  · exact Or.inr (Or.inr ⟨h0, h1, Base.run_nocap hP0 (nondeg_step c h0 h1 h2) hb0
      (fun _ => nondeg_begin h1 hs.hpump) hg hcap⟩)

end Poupool.Pwm
