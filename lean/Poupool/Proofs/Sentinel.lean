import Poupool.Model.Timed
import Poupool.Proofs.Outcomes
/-!
  The sentinel observation is sound: programs never read the slot, so the run from the caller's slot has the outcomes of
  the run from the sentinel, with the caller's slot put back (`unsent`).  One simulation (`Sim`), carried from `evalCond` and
  `exec` through `runSeq`, `fire`, `call` to `step`.
-/
namespace Poupool.Timed

section unsent
variable (X : MsgId) (a : Option MsgId)

theorem unsent_eq (s : St) : unsent X a s = { s with armed := if s.armed = some X then a else s.armed } := by
  unfold unsent
  split <;> simp [*]

theorem unsent_vars (s : St) : (unsent X a s).vars = s.vars := by rw [unsent_eq]
theorem unsent_leaf (s : St) : (unsent X a s).leaf = s.leaf := by rw [unsent_eq]

theorem unsent_arm (s : St) {m : MsgId} (h : m ≠ X) :
    unsent X a { s with armed := some m } = { unsent X a s with armed := some m } := by
  simp [unsent_eq, h]

abbrev Unsent {α : Type} (x y : α × St) : Prop := y = (x.1, unsent X a x.2)

theorem evalCond_unsent (l : List Int) (c : Cond) (s : St) :
    Sim (Unsent X a) (evalCond l c s) (evalCond l c (unsent X a s)) := by
  induction c generalizing s with
  | nondet => exact .cons rfl (.single rfl)
  | tt | ff => exact .single rfl
  | leafIn ls =>
      simp only [evalCond, unsent_leaf]
      exact .single rfl
  | cmp op e1 e2 =>
      simp only [evalCond, unsent_vars]
      split
      · exact .single rfl
      · exact .cons rfl (.single rfl)
  | ask t f => exact .cons (by simp [unsent_eq]) (.single (by simp [unsent_eq]))
  | not c ih => exact (ih s).map fun _ _ r => by rw [r]
  | and c1 c2 ih1 ih2 =>
      refine (ih1 s).flatMap fun (b, s1) _ r => ?_
      subst r
      cases b
      · exact .single rfl
      · exact ih2 s1
  | or c1 c2 ih1 ih2 =>
      refine (ih1 s).flatMap fun (b, s1) _ r => ?_
      subst r
      cases b
      · exact ih2 s1
      · exact .single rfl

theorem exec_unsent (p : Stmt) (hu : usesMsg X p = false) (l : List Int) (s : St) :
    Sim (Unsent X a) (exec p l s) (exec p l (unsent X a s)) := by
  induction p generalizing l s with
  | skip | ret | stopRepeat | emit => exact .single rfl
  | cancel | selfTell | «opaque» => exact .single (by simp [unsent_eq])
  | set v e =>
      simp only [exec, unsent_vars]
      split <;> exact .single (by simp [unsent_eq])
  | delay m =>
      simp only [usesMsg, beq_eq_false_iff_ne, ne_eq] at hu
      exact .single (by simp [unsent_arm X a s hu])
  | seq p1 p2 ih1 ih2 =>
      simp only [usesMsg, Bool.or_eq_false_iff] at hu
      refine ((ih1 hu.1 l s).congr (fun _ => mem_dedupFS.1) fun _ => mem_dedupFS.2).flatMap fun (f, s1) _ r => ?_
      subst r
      cases f
      · exact ih2 hu.2 l s1
      · exact .single rfl
      · exact .single rfl
  | ite c t e iht ihe =>
      simp only [usesMsg, Bool.or_eq_false_iff] at hu
      refine (evalCond_unsent X a l c s).flatMap fun (b, s1) _ r => ?_
      subst r
      cases b
      · exact ihe hu.2 l s1
      · exact iht hu.1 l s1
  | choose p1 p2 ih1 ih2 =>
      simp only [usesMsg, Bool.or_eq_false_iff] at hu
      exact (ih1 hu.1 l s).append (ih2 hu.2 l s)
  | forSetting loc vals body ih => exact Sim.refl.flatMap fun v _ r => r ▸ ih hu (l ++ [v]) s
  | doRepeat body poll ih =>
      simp only [usesMsg, Bool.or_eq_false_iff, beq_eq_false_iff_ne, ne_eq] at hu
      refine (ih hu.1 l s).map fun (f, s1) _ r => ?_
      subst r
      cases f <;> simp [unsent_arm X a s1 hu.2]
  | scope body ih =>
      refine (ih hu l s).map fun (f, s1) _ r => ?_
      subst r
      cases f <;> rfl

end unsent

section
variable {X : MsgId} (a : Option MsgId)

theorem runSeq_unsent {cbs : List Stmt} (hc : ∀ p ∈ cbs, usesMsg X p = false) (ids : List Nat) (s : St) :
    Sim (fun s s' => s' = unsent X a s) (runSeq cbs ids s) (runSeq cbs ids (unsent X a s)) := by
  induction ids generalizing s with
  | nil => exact .single rfl
  | cons i is ih =>
      refine Sim.congr ?_ (fun _ => mem_runSeq_cons.1) fun _ => mem_runSeq_cons.2
      exact (exec_unsent X a _ (getD_of_forall hc rfl i) [] s).flatMap fun x _ r => r ▸ ih x.2

variable {D : ActorDesc}

theorem fire_unsent (hc : ∀ p ∈ D.callbacks, usesMsg X p = false) (t : MsgId) (s : St) :
    Sim (fun s s' => s' = unsent X a s) (fire D t s) (fire D t (unsent X a s)) := by
  simp only [fire, unsent_leaf]
  refine .append ?_ (Sim.refl.flatMap fun r _ e => ?_)
  · split
    · exact .nil
    · exact .single rfl
  · subst e
    refine (runSeq_unsent a hc r.pre s).flatMap fun s1 _ e => ?_
    subst e
    rw [show (if r.internal then unsent X a s1 else { unsent X a s1 with leaf := r.dest, pend := [] }) =
      unsent X a (if r.internal then s1 else { s1 with leaf := r.dest, pend := [] }) by split <;> simp [unsent_eq]]
    exact runSeq_unsent a hc r.post _

variable (hf : fresh D X = true)
include hf

theorem call_unsent (m : MsgId) (s : St) :
    Sim (fun s s' => s' = unsent X a s) (call D m s) (call D m (unsent X a s)) := by
  simp only [fresh, Bool.and_eq_true, List.all_eq_true, Bool.not_eq_true'] at hf
  unfold call
  split
  · exact fire_unsent a hf.1.1 m s
  · split
    · rename_i p hfind
      exact (exec_unsent X a p (hf.1.2 _ (List.mem_of_find?_eq_some hfind)) [] s).map fun _ _ r => by rw [r]
    · exact .single rfl

theorem step_unsent (m : MsgId) (s : St) :
    Sim (fun s s' => s' = unsent X a s) (step D s (.plain m)) (step D (unsent X a s) (.plain m)) := by
  have e : { unsent X a s with pend := removeMsg m (unsent X a s).pend } =
      unsent X a { s with pend := removeMsg m s.pend } := by
    simp [unsent_eq]
  simp only [step, e]
  exact (call_unsent a hf m _).map fun s1 _ r => by simp [r, applyHavoc, unsent_eq]

end

/-- what the sentinel run shows is what the real run does -/
theorem step_plain_unsent (D : ActorDesc) (X : MsgId) (hf : fresh D X = true) (m : MsgId) (s s0 : St)
    (h : s0 ∈ step D { s with armed := some X } (.plain m)) : unsent X s.armed s0 ∈ step D s (.plain m) := by
  obtain ⟨s', hs', rfl⟩ := step_unsent s.armed hf m _ s0 h
  rwa [show unsent X s.armed { s with armed := some X } = s by simp [unsent_eq]] at hs'

end Poupool.Timed
