import Poupool.Proofs.ComposeProj
import Poupool.Model.Glue
/-!
  The settled-state theorem for the composition of a generated master and a generated slave
  (`Model/Compose.lean`), from two hypothesis structures:

  * `MasterOK` – what the master's generated handlers do to the ghost variable, relative to the effects they
    perform (derived from the decidable checker `ghostDiscipline`, see `Proofs/ComposeDiscipline.lean`);
  * `SlaveOK`  – H1/H2 of `Model/Glue.lean` on the slave (decided on the slave's certificate).
-/
namespace Poupool.Compose

def CSpec.G (S : CSpec) (s : St) : Bool := S.isG (getNth s.vars S.v)

/-- What the master's handlers guarantee (for EVERY state with the ghost variable in range, reachable or not):
    if the handler ends knowing "X halted" then, reading its effects in order from the knowledge it started with,
    the last thing it did towards X was a halt-class tell or an `is_halt` answered TRUE; and it does not end in a
    phase in which X may start on its own. -/
structure MasterOK (S : CSpec) : Prop where
  vlt : S.v < S.DM.initVars.length
  init : S.isG (getNth S.DM.initVars S.v) = true →
    S.isHalt (initSt S.DX) = true ∧ S.allowed.contains S.DM.initLeaf = false
  step : ∀ (s : St) (msg : Msg) (s' : St) (effs : List Eff), S.v < s.vars.length → (s', effs) ∈ stepE S.DM s msg →
    s'.vars.length = s.vars.length ∧
    (S.G s' = true → ghostAfter S (S.G s) effs = true) ∧
    ((S.G s = true → S.allowed.contains s.leaf = false) → S.G s' = true → S.allowed.contains s'.leaf = false)

structure SlaveOK (S : CSpec) : Prop where
  h1 : ∀ s s' m, Reach S.DX s → S.isHaltMsg m = true → s' ∈ step S.DX s m → S.isHalt s' = true
  h2 : ∀ s s' m, Reach S.DX s → S.isHalt s = true → m ∈ allMsgs S.DX → S.isStart m = false →
        s' ∈ step S.DX s m → S.isHalt s' = true

def CSpec.toGlue (S : CSpec) : Glue.Spec :=
  { D := S.DX, isHaltMsg := S.isHaltMsg, isHalt := S.isHalt, isStart := S.isStart }

theorem slaveOK_of_glue {S : CSpec} (h : Glue.SlaveOK S.toGlue) : SlaveOK S := ⟨h.h1, h.h2⟩

theorem creach_m (S : CSpec) {g : CSt} (h : CReach S g) : Reach S.DM g.m := by
  induction h with
  | init => exact Reach.init
  | @step g0 g1 _ hs ih =>
      cases hs with
      | mBegin msg m' effs hidle hmsg h => exact Reach.step msg ih hmsg (stepE_sound h)
      | mTell | mEmit | mAsk | other | deliver => exact ih

/-! The delivery guard of `CStep.deliver` (and of `TStep.bServe` / `TStep.cServe`): a start message from somebody else
    (`c`) is looked at only between two handlers of the master (`i`); it is served (`P`) if the master's phase allows
    (`a`), else refused (`Q`); anything else is served. -/

theorem guard_cases {c i P Q : Prop} [Decidable c] {a : Bool}
    (h : if c then i ∧ (if a = true then P else Q) else P) : P ∧ (c → a = true) ∨ c ∧ i ∧ a = false ∧ Q := by
  by_cases hc : c
  · rw [if_pos hc] at h
    cases a
    · exact .inr ⟨hc, h.1, rfl, h.2⟩
    · exact .inl ⟨h.2, fun _ => rfl⟩
  · rw [if_neg hc] at h
    exact .inl ⟨h, fun h' => absurd h' hc⟩

theorem guard_imp {c i P Q P' Q' : Prop} [Decidable c] {a : Bool} (hP : P → P') (hQ : Q → Q')
    (h : if c then i ∧ (if a = true then P else Q) else P) : if c then i ∧ (if a = true then P' else Q') else P' := by
  by_cases hc : c
  · rw [if_pos hc] at h ⊢
    cases a
    · exact ⟨h.1, hQ h.2⟩
    · exact ⟨h.1, hP h.2⟩
  · rw [if_neg hc] at h ⊢
    exact hP h

theorem creach_x (S : CSpec) {g : CSt} (h : CReach S g) : Reach S.DX g.x := by
  induction h with
  | init => exact Reach.init
  | @step g0 g1 _ hs ih =>
      cases hs with
      | mBegin | mTell | mEmit | mAsk | other => exact ih
      | deliver e rest x' h hm hs =>
          rcases guard_cases hs with ⟨hs, _⟩ | ⟨_, _, _, rfl⟩
          · exact Reach.step e.2 ih hm hs
          · exact ih

/-- `upd S` and `settle S` unfold to `Glue.upd S.toGlue` and `Glue.settle S.toGlue`; the lemmas of `Model/Glue.lean`
    apply as they are. -/
def upd (S : CSpec) (h : Bool) (e : Bool × Msg) : Bool :=
  if e.1 then (if S.isHaltMsg e.2 then true else if S.isStart e.2 then false else h) else h

def settle (S : CSpec) (h : Bool) (inbox : List (Bool × Msg)) : Bool := inbox.foldl (upd S) h

theorem ghost1_tell {S : CSpec} {t : Nat} {m : Msg} (ht : S.tells.lookup t = some m) (a : Bool) :
    ghost1 S a (.emit t) = Glue.upd S.toGlue a (true, m) := by
  simp only [ghost1, ht]
  rfl

theorem ghost1_other {S : CSpec} {t : Nat} (ht : S.tells.lookup t = none) (a : Bool) : ghost1 S a (.emit t) = a := by
  simp only [ghost1, ht]

/-- `a`: the knowledge bit from which the effects still to perform (`todo`) are read; the master's variable claims
    no more than reading them gives -/
def Inv (S : CSpec) (g : CSt) : Prop :=
  S.v < g.m.vars.length ∧
  (S.G g.m = true → S.allowed.contains g.m.leaf = false) ∧
  ∃ a : Bool, Glue.Settles S.toGlue a g.inbox g.x ∧ (S.G g.m = true → ghostAfter S a g.todo = true)

theorem inv_of_creach (S : CSpec) (mok : MasterOK S) (sok : SlaveOK S) {g : CSt} (h : CReach S g) : Inv S g := by
  induction h with
  | init => exact ⟨mok.vlt, fun hg => (mok.init hg).2, _, fun ha => (mok.init ha).1, id⟩
  | @step g g' hr hs ih =>
      have hx := creach_x S hr
      obtain ⟨hv, hal, a, hK, hT⟩ := ih
      -- performing the head of `todo` moves it from the effects still to read into the knowledge bit
      have pop : ∀ {e rest}, g.todo = e :: rest → S.G g.m = true → ghostAfter S (ghost1 S a e) rest = true :=
        fun h hg => by simpa [h, ghostAfter] using hT hg
      cases hs with
      | mBegin msg m' effs hidle hmsg h =>
          obtain ⟨hlen, hstep, hal'⟩ := mok.step g.m msg m' effs hv h
          exact ⟨hlen ▸ hv, hal' hal, S.G g.m, hK.weaken fun hg => by simpa [hidle, ghostAfter] using hT hg, hstep⟩
      | mTell t rest msg h ht => exact ⟨hv, hal, _, ghost1_tell ht a ▸ hK.tell, pop h⟩
      | mEmit t rest h ht => exact ⟨hv, hal, _, (ghost1_other ht a).symm ▸ hK, pop h⟩
      | mAsk ans t f rest h hq =>
          refine ⟨hv, hal, _, fun ha => ?_, pop h⟩
          rcases Bool.or_eq_true_iff.1 ha with ha | ha
          · exact hK ha
          · exact Glue.Settles.observe (a := true) (hq ha).1 (hq ha).2 rfl
      | other m hm => exact ⟨hv, hal, a, hK.other, hT⟩
      | deliver e rest x' hin hm hs =>
          obtain ⟨b, m⟩ := e
          rw [hin] at hK
          rcases guard_cases hs with ⟨hs, hall⟩ | ⟨⟨rfl, _⟩, _, _, rfl⟩
          · by_cases hc : b = false ∧ S.isStart m = true
            · -- a start message from somebody else is served: the master is in an allowed phase and claims nothing
              exact ⟨hv, hal, false, nofun, fun hg => absurd (hall hc) (by rw [hal hg]; simp)⟩
            · exact ⟨hv, hal, a, hK.serve ⟨sok.h1, sok.h2⟩ hx hm hs hc, hT⟩
          · exact ⟨hv, hal, a, hK.refuse, hT⟩

/-- In every reachable composed state with the master between two handlers and knowing "X halted": once X has
    served the messages now in its inbox (whatever third parties add meanwhile is covered by applying this again
    later), X is halted. -/
theorem will_be_halted (S : CSpec) (mok : MasterOK S) (sok : SlaveOK S) {g : CSt} (h : CReach S g)
    (hidle : g.todo = []) (hg : S.isG (getNth g.m.vars S.v) = true) : settle S (S.isHalt g.x) g.inbox = true := by
  obtain ⟨_, _, a, hK, hT⟩ := inv_of_creach S mok sok h
  exact hK (by simpa [hidle, ghostAfter] using hT hg)

/-- **Composition theorem.** In every reachable state of (generated master ∥ generated slave), for every
    interleaving: if the master is between two handlers, its ghost variable says "X halted" and none of the
    master's messages is still waiting in X's inbox, then X is halted. -/
theorem halted_when_served (S : CSpec) (mok : MasterOK S) (sok : SlaveOK S) {g : CSt} (h : CReach S g)
    (hidle : g.todo = []) (hg : S.isG (getNth g.m.vars S.v) = true) (hserved : noMaster g.inbox) :
    S.isHalt g.x = true := by
  rw [← Glue.settle_noMaster (S := S.toGlue) (S.isHalt g.x) hserved]
  exact will_be_halted S mok sok h hidle hg

end Poupool.Compose
