/-
  The heating interlude: `heat`, the polls of `heating_running`, `heating_delay`, the expiry of the delay.  A poll of
  `heating_running` accounts the whole time since the previous poll at factor 1, keeps the pump on and never looks at the
  quota — the mechanism behind "scheduled heating time counts towards the quota" and behind the literal-reading violation
  `Filtration.eco-cycle:quota-exceeded-by-late-heating`.  `interlude`: what a complete interlude leaves in the state in which
  `on_enter_eco_compute` runs afterwards (`HeatDone`).
-/
import Poupool.Proofs.EcoDays

set_option linter.unusedVariables false
namespace Poupool.Eco
open Poupool.Generated

theorem cfg_hd : EcoConfig.heatingDelayToEcoUs = 60000000 := by decide

structure HeatPolled (s : Loop) : Prop where
  hphase : s.phase = .heating
  hpump : s.pumpOn = true
  hlast : s.eco.filtration.last = some s.now
  hdue : s.due = s.now + EcoConfig.pollDelayUs

theorem heating_poll (eps : Int) (s : Loop) (j0 j1 j2 : Int) (h : HeatPolled s) (hj : 0 ≤ j0)
    (hnr : s.now + EcoConfig.pollDelayUs + j0 < s.eco.nextReset) :
    HeatPolled (ecoStep eps s (.tick j0 j1 j2)).1
    ∧ (ecoStep eps s (.tick j0 j1 j2)).1.now = s.now + EcoConfig.pollDelayUs + j0
    ∧ (ecoStep eps s (.tick j0 j1 j2)).1.onToday = s.onToday + (EcoConfig.pollDelayUs + j0)
    ∧ (ecoStep eps s (.tick j0 j1 j2)).1.eco.filtration.duration = s.eco.filtration.duration + (EcoConfig.pollDelayUs + j0)
    ∧ (ecoStep eps s (.tick j0 j1 j2)).1.eco.filtration.delay = s.eco.filtration.delay
    ∧ (ecoStep eps s (.tick j0 j1 j2)).1.eco.nextReset = s.eco.nextReset
    ∧ (ecoStep eps s (.tick j0 j1 j2)).1.full = s.full
    ∧ (ecoStep eps s (.tick j0 j1 j2)).1.days = s.days := by
  obtain ⟨hp, hpump, hl, hdue⟩ := h
  have hpoll := cfg_poll
  have ht : max s.now s.due + j0 = s.now + EcoConfig.pollDelayUs + j0 := by omega
  rw [step_heating eps s j0 j1 j2 hp, polled_noreset eps s j0 1 1 (by omega), Timer.gain_one _ _ hl, hpump, if_pos rfl, ht]
  exact ⟨⟨hp, rfl, rfl, rfl⟩, rfl, by dsimp only; omega, by dsimp only; omega, rfl, rfl, rfl, rfl⟩

/-- `n` consecutive on-time polls of `heating_running` before the reset: the pump stays on and the whole time is
accounted AND added to the pump-on time of the day, whatever the daily duration: there is no quota cut-off. -/
theorem heating_polls (eps : Int) (n : Nat) : ∀ (s : Loop), HeatPolled s →
    s.now + n * EcoConfig.pollDelayUs < s.eco.nextReset →
    HeatPolled (ecoFinal eps s (List.replicate n (.tick 0 0 0)))
    ∧ (ecoFinal eps s (List.replicate n (.tick 0 0 0))).now = s.now + n * EcoConfig.pollDelayUs
    ∧ (ecoFinal eps s (List.replicate n (.tick 0 0 0))).onToday = s.onToday + n * EcoConfig.pollDelayUs
    ∧ (ecoFinal eps s (List.replicate n (.tick 0 0 0))).eco.filtration.duration = s.eco.filtration.duration + n * EcoConfig.pollDelayUs
    ∧ (ecoFinal eps s (List.replicate n (.tick 0 0 0))).eco.filtration.delay = s.eco.filtration.delay
    ∧ (ecoFinal eps s (List.replicate n (.tick 0 0 0))).full = s.full := by
  have hpoll := cfg_poll
  induction n with
  | zero => intro s h _; simp [ecoFinal]; exact h
  | succ k ih =>
    intro s h hnr
    have hmul : ((k + 1 : Nat) : Int) * EcoConfig.pollDelayUs = k * EcoConfig.pollDelayUs + EcoConfig.pollDelayUs := by
      rw [Int.natCast_succ, Int.add_mul, Int.one_mul]
    rw [hmul] at hnr ⊢
    have hk0 : (0 : Int) ≤ k * EcoConfig.pollDelayUs := Int.mul_nonneg (by omega) (by omega)
    obtain ⟨p1, p2, p3, p4, p5, p6, p7, p8⟩ := heating_poll eps s 0 0 0 h (by omega) (by omega)
    obtain ⟨q1, q2, q3, q4, q5, q6⟩ := ih (ecoStep eps s (.tick 0 0 0)).1 p1 (by rw [p2, p6]; omega)
    have e : ecoFinal eps s (List.replicate (k + 1) (.tick 0 0 0))
        = ecoFinal eps (ecoStep eps s (.tick 0 0 0)).1 (List.replicate k (.tick 0 0 0)) := rfl
    rw [e]
    exact ⟨q1, by rw [q2, p2]; omega, by rw [q3, p3]; omega, by rw [q4, p4]; omega, by rw [q5, p5], by rw [q6, p7]⟩

/-- `heating_running` between `heat` (at `th`, accounted duration `dh`, pump-on time `oh`) and `heating_delay`:
the pump-on time grows with the clock; the accounted duration lags by at most the lateness of the first poll. -/
structure HeatRun (eps per delay NR th dh oh gU0 : Int) (fl : Bool) (days0 : List DayRec) (s : Loop) : Prop where
  hphase : s.phase = .heating
  hpump : s.pumpOn = true
  hper : s.eco.period = per
  hdel : s.eco.filtration.delay = delay
  hpd : s.eco.periodDuration = divNearest delay per
  hNR : s.eco.nextReset = NR
  hfull : s.full = fl
  hdays : s.days = days0
  hgU : s.gU = gU0
  hplain : s.gPlain = false
  hth : th ≤ s.now
  hon : s.onToday = oh + (s.now - th)
  hge : dh ≤ s.eco.filtration.duration
  htim : (s.eco.filtration.last = none ∧ s.due = s.now ∧ s.now = th ∧ s.eco.filtration.duration = dh)
    ∨ (s.eco.filtration.last = some s.now ∧ s.due = s.now + EcoConfig.pollDelayUs
        ∧ dh + (s.now - th) - eps ≤ s.eco.filtration.duration ∧ s.eco.filtration.duration ≤ dh + (s.now - th))

theorem heat_enter {per delay : Int} {s : Loop} (eps dt : Int) (hph : s.phase = .waiting ∨ s.phase = .normal)
    (hper : s.eco.period = per) (hdel : s.eco.filtration.delay = delay) (hpd : s.eco.periodDuration = divNearest delay per) :
    HeatRun eps per delay s.eco.nextReset (s.now + dt) s.eco.filtration.duration
      (s.onToday + (if s.pumpOn then dt else 0)) s.gU s.full s.days (ecoStep eps s (.heat dt)).1 := by
  rw [step_heat eps s dt hph]
  refine ⟨rfl, rfl, hper, hdel, hpd, rfl, rfl, rfl, rfl, rfl, Int.le_refl _, ?_, Int.le_refl _, Or.inl ⟨rfl, rfl, rfl, rfl⟩⟩
  simp only [Loop.advance]
  split <;> omega

section
variable {eps per delay NR th dh oh gU0 : Int} {fl : Bool} {days0 : List DayRec} {s : Loop}

theorem heat_poll {j0 : Int} (j1 j2 : Int) (h : HeatRun eps per delay NR th dh oh gU0 fl days0 s) (hj : 0 ≤ j0 ∧ j0 ≤ eps)
    (hnr : max s.now s.due + j0 < NR) :
    HeatRun eps per delay NR th dh oh gU0 fl days0 (ecoStep eps s (.tick j0 j1 j2)).1 := by
  have hpoll := cfg_poll
  have hNR := h.hNR
  have hth := h.hth
  have hon := h.hon
  have hge := h.hge
  rw [step_heating eps s j0 j1 j2 h.hphase, polled_noreset eps s j0 1 1 (by omega), h.hpump, if_pos rfl]
  -- what the poll accounts: nothing at the first poll (`heat` cleared the timers), the time since the last poll otherwise
  have hg : ∃ d, s.eco.filtration.gain (max s.now s.due + j0) 1 1 = d ∧ 0 ≤ d
      ∧ dh + (max s.now s.due + j0 - th) - eps ≤ s.eco.filtration.duration + d
      ∧ s.eco.filtration.duration + d ≤ dh + (max s.now s.due + j0 - th) := by
    rcases h.htim with ⟨t1, t2, t3, t4⟩ | ⟨t1, t2, t3, t4⟩
    · exact ⟨0, Timer.gain_none _ _ _ _ t1, by omega, by omega, by omega⟩
    · exact ⟨_, Timer.gain_one _ _ t1, by omega, by omega, by omega⟩
  obtain ⟨d, hd, hd0, hd1, hd2⟩ := hg
  rw [hd]
  exact { h with
    hpump := rfl
    hth := by dsimp only; omega
    hon := by dsimp only; omega
    hge := by dsimp only; omega
    htim := Or.inr ⟨rfl, rfl, hd1, hd2⟩ }

end

def PollsOK (eps : Int) : Loop → List Ev → Prop
  | _, [] => True
  | s, .tick j0 j1 j2 :: es =>
    (0 ≤ j0 ∧ j0 ≤ eps ∧ max s.now s.due + j0 < s.eco.nextReset) ∧ PollsOK eps (ecoStep eps s (.tick j0 j1 j2)).1 es
  | _, _ :: _ => False

def PollsOK.dec (eps : Int) : (s : Loop) → (evs : List Ev) → Decidable (PollsOK eps s evs)
  | _, [] => isTrue trivial
  | s, .tick j0 j1 j2 :: es =>
    have := PollsOK.dec eps (ecoStep eps s (.tick j0 j1 j2)).1 es
    inferInstanceAs (Decidable ((0 ≤ j0 ∧ j0 ≤ eps ∧ max s.now s.due + j0 < s.eco.nextReset)
      ∧ PollsOK eps (ecoStep eps s (.tick j0 j1 j2)).1 es))
  | _, .heat _ :: _ => isFalse (fun h => h)
  | _, .heatEnd _ :: _ => isFalse (fun h => h)

instance (eps : Int) (s : Loop) (evs : List Ev) : Decidable (PollsOK eps s evs) := PollsOK.dec eps s evs

theorem heat_polls {eps per delay NR th dh oh gU0 : Int} {fl : Bool} {days0 : List DayRec} {evs : List Ev} :
    ∀ {s : Loop}, HeatRun eps per delay NR th dh oh gU0 fl days0 s → PollsOK eps s evs →
      HeatRun eps per delay NR th dh oh gU0 fl days0 (ecoFinal eps s evs) := by
  induction evs with
  | nil => intro s h _; exact h
  | cons e es ih =>
    intro s h hok
    cases e with
    | tick j0 j1 j2 =>
      obtain ⟨⟨a1, a2, a3⟩, hrest⟩ := hok
      exact ih (heat_poll j1 j2 h ⟨a1, a2⟩ (by rw [← h.hNR]; exact a3)) hrest
    | heat dt => exact hok.elim
    | heatEnd dt => exact hok.elim

/-- pump-on time of an interlude that is not accounted: the delay before eco, one poll, three handler latenesses -/
def heatLoss (eps : Int) : Int := EcoConfig.heatingDelayToEcoUs + EcoConfig.pollDelayUs + 3 * eps

structure HeatDone (eps per delay NR th dh oh gU0 : Int) (fl : Bool) (days0 : List DayRec) (x : Loop) : Prop where
  hpump : x.pumpOn = true
  hper : x.eco.period = per
  hdel : x.eco.filtration.delay = delay
  hpd : x.eco.periodDuration = divNearest delay per
  hNR : x.eco.nextReset = NR
  hfull : x.full = fl
  hdays : x.days = days0
  hgU : x.gU = gU0
  hplain : x.gPlain = false
  hth : th + EcoConfig.heatingDelayToEcoUs ≤ x.now
  hon : x.onToday = oh + (x.now - th)
  hlo : dh + (x.now - th) - heatLoss eps ≤ x.eco.filtration.duration
  hhi : x.eco.filtration.duration ≤ dh + (x.now - th)
  hge : dh ≤ x.eco.filtration.duration

theorem heat_exit {eps per delay NR th dh oh gU0 : Int} {fl : Bool} {days0 : List DayRec} {s : Loop} {dt jd : Int} (j1 j2 : Int)
    (h : HeatRun eps per delay NR th dh oh gU0 fl days0 s)
    (hdt : 0 ≤ dt ∧ s.now + dt ≤ max s.now s.due + eps) (hjd : 0 ≤ jd ∧ jd ≤ eps) :
    ∃ x : Loop, (ecoStep eps (ecoStep eps s (.heatEnd dt)).1 (.tick jd j1 j2)).1 = (x.enterCompute eps).1
      ∧ x.now = s.now + dt + EcoConfig.heatingDelayToEcoUs + jd
      ∧ HeatDone eps per delay NR th dh oh gU0 fl days0 x := by
  have hpoll := cfg_poll
  have hhd := cfg_hd
  have hth := h.hth
  have hon := h.hon
  have e : max (s.now + dt) (s.now + dt + EcoConfig.heatingDelayToEcoUs) + jd = s.now + dt + EcoConfig.heatingDelayToEcoUs + jd := by
    omega
  -- the pump runs from the last poll to the expiry of the delay; nothing of it is accounted
  have hacc : dh + (s.now + dt + EcoConfig.heatingDelayToEcoUs + jd - th) - heatLoss eps ≤ s.eco.filtration.duration
      ∧ s.eco.filtration.duration ≤ dh + (s.now + dt + EcoConfig.heatingDelayToEcoUs + jd - th) := by
    unfold heatLoss
    rcases h.htim with ⟨t1, t2, t3, t4⟩ | ⟨t1, t2, t3, t4⟩ <;> omega
  rw [step_heatEnd eps s dt h.hphase, step_heatDelay eps _ jd j1 j2 rfl]
  refine ⟨_, rfl, e, ?_⟩
  simp only [Loop.advance, h.hpump, if_true, e]
  exact {
    hpump := rfl, hper := h.hper, hdel := h.hdel, hpd := h.hpd, hNR := h.hNR, hfull := h.hfull, hdays := h.hdays, hgU := h.hgU
    hplain := h.hplain, hlo := hacc.1, hhi := hacc.2, hge := h.hge
    hth := by dsimp only; omega
    hon := by dsimp only; omega }

def interludeEvs (dt : Int) (polls : List Ev) (dt' jd j1 j2 : Int) : List Ev :=
  .heat dt :: (polls ++ [.heatEnd dt', .tick jd j1 j2])

/-- the side conditions of a complete interlude started in state `s`: `heat` arrives before the armed poll is handled,
the polls are on time and before the reset, `heating_delay` arrives before the next poll is handled, the expiry of the
delay is handled at most `eps` late -/
def InterludeOK (eps : Int) (s : Loop) (dt : Int) (polls : List Ev) (dt' jd : Int) : Prop :=
  (0 ≤ dt ∧ s.now + dt ≤ max s.now s.due + eps)
  ∧ PollsOK eps (ecoStep eps s (.heat dt)).1 polls
  ∧ (0 ≤ dt' ∧ (ecoFinal eps s (.heat dt :: polls)).now + dt'
        ≤ max (ecoFinal eps s (.heat dt :: polls)).now (ecoFinal eps s (.heat dt :: polls)).due + eps)
  ∧ (0 ≤ jd ∧ jd ≤ eps)

instance (eps : Int) (s : Loop) (dt : Int) (polls : List Ev) (dt' jd : Int) :
    Decidable (InterludeOK eps s dt polls dt' jd) := by
  unfold InterludeOK; infer_instance

theorem interlude (eps per delay : Int) (s : Loop) (dt : Int) (polls : List Ev) (dt' jd j1 j2 : Int) (he : 0 ≤ eps)
    (hph : s.phase = .waiting ∨ s.phase = .normal)
    (hper : s.eco.period = per) (hdel : s.eco.filtration.delay = delay) (hpd : s.eco.periodDuration = divNearest delay per)
    (hok : InterludeOK eps s dt polls dt' jd) :
    ∃ x : Loop, ecoFinal eps s (interludeEvs dt polls dt' jd j1 j2) = (x.enterCompute eps).1
      ∧ x.now = (ecoFinal eps s (.heat dt :: polls)).now + dt' + EcoConfig.heatingDelayToEcoUs + jd
      ∧ HeatDone eps per delay s.eco.nextReset (s.now + dt) s.eco.filtration.duration
          (s.onToday + (if s.pumpOn then dt else 0)) s.gU s.full s.days x := by
  obtain ⟨hdt, hpolls, hdt', hjd⟩ := hok
  have h2 := heat_polls (heat_enter eps dt hph hper hdel hpd) hpolls
  have e2 : ecoFinal eps s (.heat dt :: polls) = ecoFinal eps (ecoStep eps s (.heat dt)).1 polls := rfl
  rw [e2] at hdt' ⊢
  obtain ⟨x, hx1, hx2, hx3⟩ := heat_exit j1 j2 h2 hdt' hjd
  refine ⟨x, ?_, hx2, hx3⟩
  rw [← hx1]
  show ecoFinal eps (ecoStep eps s (.heat dt)).1 (polls ++ [.heatEnd dt', .tick jd j1 j2]) = _
  rw [ecoFinal_append]
  rfl

theorem interlude_before_reset {eps per delay : Int} {s : Loop} {dt : Int} {polls : List Ev} {dt' jd j1 j2 : Int} (he : 0 ≤ eps)
    (hph : s.phase = .waiting ∨ s.phase = .normal)
    (hper : s.eco.period = per) (hdel : s.eco.filtration.delay = delay) (hpd : s.eco.periodDuration = divNearest delay per)
    (hok : InterludeOK eps s dt polls dt' jd)
    (hnr : (ecoFinal eps s (interludeEvs dt polls dt' jd j1 j2)).now < s.eco.nextReset) :
    ∃ x : Loop, ecoFinal eps s (interludeEvs dt polls dt' jd j1 j2) = (x.enterCompute eps).1 ∧ x.now < x.eco.nextReset
      ∧ HeatDone eps per delay s.eco.nextReset (s.now + dt) s.eco.filtration.duration
          (s.onToday + (if s.pumpOn then dt else 0)) s.gU s.full s.days x := by
  obtain ⟨x, hx, -, hdone⟩ := interlude eps per delay s dt polls dt' jd j1 j2 he hph hper hdel hpd hok
  rw [hx, enterCompute_now, ← hdone.hNR] at hnr
  exact ⟨x, hx, hnr, hdone⟩

end Poupool.Eco
