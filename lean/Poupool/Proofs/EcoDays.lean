/-
  The finished days (`Loop.days`) are only ever written: `roll` pushes a record, nothing reads the list.  `withDays`, `DRel`,
  `run_withDays`: a run does not depend on the days finished before it.  `SeqOK`: every finished day but the oldest started
  at a reset.  Both hold for every event, heating interludes included, and need no invariant.
-/
import Poupool.Proofs.EcoStep

namespace Poupool.Eco
open Poupool.Generated

theorem ecoFinal_append (eps : Int) (s : Loop) (a b : List Ev) : ecoFinal eps s (a ++ b) = ecoFinal eps (ecoFinal eps s a) b := by
  unfold ecoFinal; rw [List.foldl_append]

def withDays (D : List DayRec) (s : Loop) : Loop := { s with days := D }

@[simp] theorem withDays_withDays (D D' : List DayRec) (s : Loop) : withDays D (withDays D' s) = withDays D s := rfl
@[simp] theorem withDays_self (s : Loop) : withDays s.days s = s := rfl
@[simp] theorem withDays_days (D : List DayRec) (s : Loop) : (withDays D s).days = D := rfl
@[simp] theorem withDays_eco (D : List DayRec) (s : Loop) : (withDays D s).eco = s.eco := rfl
@[simp] theorem withDays_now (D : List DayRec) (s : Loop) : (withDays D s).now = s.now := rfl
@[simp] theorem withDays_phase (D : List DayRec) (s : Loop) : (withDays D s).phase = s.phase := rfl

/-- `Inv` reads the finished days in `hdays` only -/
theorem inv_clr {eps : Int} {s : Loop} (h : Inv eps s) : Inv eps (withDays [] s) :=
  { h with common := { h.common with hdays := fun _ hr => nomatch hr } }

def DRel (D : List DayRec) (x y : Loop) : Prop := x = withDays (y.days ++ D) y

theorem DRel.start (D : List DayRec) (s : Loop) : DRel D (withDays D s) (withDays [] s) := rfl

theorem DRel.now {D : List DayRec} {x y : Loop} (h : DRel D x y) : x.now = y.now := h ▸ rfl
theorem DRel.due {D : List DayRec} {x y : Loop} (h : DRel D x y) : x.due = y.due := h ▸ rfl
theorem DRel.phase {D : List DayRec} {x y : Loop} (h : DRel D x y) : x.phase = y.phase := h ▸ rfl
theorem DRel.toNormal {D : List DayRec} {x y : Loop} (h : DRel D x y) : x.toNormal = y.toNormal := h ▸ rfl
theorem DRel.eco {D : List DayRec} {x y : Loop} (h : DRel D x y) : x.eco = y.eco := h ▸ rfl
theorem DRel.onToday {D : List DayRec} {x y : Loop} (h : DRel D x y) : x.onToday = y.onToday := h ▸ rfl
theorem DRel.full {D : List DayRec} {x y : Loop} (h : DRel D x y) : x.full = y.full := h ▸ rfl
theorem DRel.gPlain {D : List DayRec} {x y : Loop} (h : DRel D x y) : x.gPlain = y.gPlain := h ▸ rfl
theorem DRel.days {D : List DayRec} {x y : Loop} (h : DRel D x y) : x.days = y.days ++ D := h ▸ rfl

theorem DRel.clr {D : List DayRec} {x y : Loop} (h : DRel D x y) : withDays [] x = withDays [] y := h ▸ rfl

/-- an operation that neither reads nor writes the finished days -/
theorem DRel.map {D : List DayRec} {x y : Loop} (h : DRel D x y) (f : Loop → Loop)
    (hf : ∀ (E : List DayRec) (z : Loop), f (withDays E z) = withDays E (f z)) (hd : ∀ z : Loop, (f z).days = z.days) :
    DRel D (f x) (f y) := by
  unfold DRel at h ⊢
  subst h
  rw [hf, hd]

theorem DRel.advance {D : List DayRec} {x y : Loop} (h : DRel D x y) (t : Int) : DRel D (x.advance t) (y.advance t) :=
  h.map (fun z => z.advance t) (fun _ _ => rfl) (fun _ => rfl)

/-- `roll` is the only operation that writes them: it pushes on top -/
theorem DRel.doUpdate {D : List DayRec} {x y : Loop} (h : DRel D x y) (eps a b : Int) :
    DRel D (x.doUpdate eps a b).1 (y.doUpdate eps a b).1 ∧ (x.doUpdate eps a b).2 = (y.doUpdate eps a b).2 := by
  unfold DRel at h ⊢
  subst h
  simp only [Loop.doUpdate, withDays_eco, withDays_now]
  by_cases hr : (y.eco.update y.now a b).2.reset = true
  · simp only [hr, if_true]
    exact ⟨rfl, trivial⟩
  · simp only [hr]
    exact ⟨rfl, trivial⟩

theorem DRel.enterCompute {D : List DayRec} {x y : Loop} (h : DRel D x y) (eps : Int) :
    DRel D (x.enterCompute eps).1 (y.enterCompute eps).1 := by
  have h0 : DRel D { x with eco := x.eco.clear } { y with eco := y.eco.clear } :=
    h.map (fun z => { z with eco := z.eco.clear }) (fun _ _ => rfl) (fun _ => rfl)
  obtain ⟨h1, -⟩ := h0.doUpdate eps EcoConfig.factorComputeNum EcoConfig.factorComputeDen
  simp only [Loop.enterCompute]
  generalize Loop.doUpdate { x with eco := x.eco.clear } eps _ _ = rx at *
  generalize Loop.doUpdate { y with eco := y.eco.clear } eps _ _ = ry at *
  unfold DRel at h1 ⊢
  rw [h1]
  rfl

theorem DRel.reloadEco {D : List DayRec} {x y : Loop} (h : DRel D x y) (eps j1 j2 : Int) :
    DRel D (x.reloadEco eps j1 j2).1 (y.reloadEco eps j1 j2).1 := by
  simp only [Loop.reloadEco]
  apply DRel.enterCompute
  rw [h.now]
  exact h.map
    (fun z => Loop.advance { (z.advance (y.now + j1)) with
      eco := (z.advance (y.now + j1)).eco.clear, gU := (z.advance (y.now + j1)).gU + 2 * eps } ((z.advance (y.now + j1)).now + j2))
    (fun _ _ => rfl) (fun _ => rfl)

theorem DRel.ite {D : List DayRec} (c : Prop) [Decidable c] {a b a' b' : Loop × List Rec}
    (h1 : DRel D a.1 a'.1) (h2 : DRel D b.1 b'.1) : DRel D (if c then a else b).1 (if c then a' else b').1 := by
  split <;> assumption

theorem DRel.step {D : List DayRec} {x y : Loop} (h : DRel D x y) (eps : Int) (e : Ev) :
    DRel D (ecoStep eps x e).1 (ecoStep eps y e).1 := by
  cases e with
  | tick j0 j1 j2 =>
    have ha : DRel D (x.advance (max x.now x.due + j0)) (y.advance (max y.now y.due + j0)) := by
      rw [h.now, h.due]; exact h.advance _
    simp only [ecoStep]
    generalize x.advance (max x.now x.due + j0) = xa at *
    generalize y.advance (max y.now y.due + j0) = ya at *
    rw [ha.phase]
    cases hp : ya.phase <;> simp only []
    case compute =>
      rw [ha.toNormal]
      cases ya.toNormal <;> simp only [Bool.false_eq_true, if_false, if_true]
      · exact ha.map (fun z => (z.enterWaiting eps).1) (fun _ _ => rfl) (fun _ => rfl)
      · exact ha.map (fun z => (z.enterNormal eps).1) (fun _ _ => rfl) (fun _ => rfl)
    case waiting | normal | tank =>
      -- the same code up to the factor of the poll and the test that ends the phase
      generalize hx : xa.doUpdate eps _ _ = ux
      generalize hy : ya.doUpdate eps _ _ = uy
      obtain ⟨u1, u2⟩ := ha.doUpdate eps _ _
      rw [hx, hy] at u1 u2
      have hre := u1.reloadEco eps j1 j2
      obtain ⟨ux1, ux2⟩ := ux
      obtain ⟨uy1, uy2⟩ := uy
      simp only at u1 u2 hre ⊢
      unfold DRel at u1
      subst u1 u2
      simp only [withDays_eco, withDays_now]
      cases hc : ux2.reset <;> simp only [Bool.false_eq_true, if_false, if_true]
      · apply DRel.ite <;> exact rfl
      · exact hre
    case heating =>
      obtain ⟨u1, u2⟩ := ha.doUpdate eps EcoConfig.factorHeatingNum EcoConfig.factorHeatingDen
      generalize xa.doUpdate eps _ _ = ux at *
      generalize ya.doUpdate eps _ _ = uy at *
      obtain ⟨ux1, ux2⟩ := ux
      obtain ⟨uy1, uy2⟩ := uy
      simp only at u1 u2 ⊢
      unfold DRel at u1
      subst u1 u2
      rfl
    case heatDelay => exact ha.enterCompute eps
  | heat dt | heatEnd dt =>
    have ha : DRel D (x.advance (x.now + dt)) (y.advance (y.now + dt)) := by
      rw [h.now]; exact h.advance _
    simp only [ecoStep]
    generalize x.advance (x.now + dt) = xa at *
    generalize y.advance (y.now + dt) = ya at *
    rw [ha.phase]
    unfold DRel at ha
    subst ha
    cases hp : ya.phase <;> simp only [] <;> rfl

theorem DRel.run {D : List DayRec} (eps : Int) (evs : List Ev) :
    ∀ {x y : Loop}, DRel D x y → DRel D (ecoFinal eps x evs) (ecoFinal eps y evs) := by
  induction evs with
  | nil => intro x y h; exact h
  | cons e es ih => intro x y h; exact ih (h.step eps e)

theorem DRel.of_run (eps : Int) (s : Loop) (evs : List Ev) :
    DRel s.days (ecoFinal eps s evs) (ecoFinal eps (withDays [] s) evs) :=
  DRel.run eps evs (DRel.start s.days s)

/-- the finished days never influence the behaviour: a run from `s` is the run from `s` without its finished days, with
the days of `s` put back below the new ones -/
theorem run_withDays (eps : Int) (s : Loop) (evs : List Ev) :
    ecoFinal eps s evs = withDays ((ecoFinal eps (withDays [] s) evs).days ++ s.days) (ecoFinal eps (withDays [] s) evs) :=
  DRel.of_run eps s evs

theorem run_days_suffix (eps : Int) (evs : List Ev) (s : Loop) : s.days <:+ (ecoFinal eps s evs).days := by
  rw [(DRel.of_run eps s evs).days]
  exact List.suffix_append _ _

/-! ### every finished day but the oldest started at a reset -/

theorem dropLast_cons_mem {α : Type} {a : α} {l : List α} {r : α} (h : r ∈ (a :: l).dropLast) :
    (l ≠ [] ∧ r = a) ∨ r ∈ l.dropLast := by
  cases l with
  | nil => simp [List.dropLast] at h
  | cons b l' =>
    rw [List.dropLast_cons_cons] at h
    rcases List.mem_cons.mp h with h | h
    · exact Or.inl ⟨by simp, h⟩
    · exact Or.inr h

def SeqOK (s : Loop) : Prop := (s.days = [] ∨ s.full = true) ∧ ∀ r ∈ s.days.dropLast, r.full = true

theorem SeqOK.congr {s t : Loop} (h : SeqOK s) (h1 : t.days = s.days) (h2 : t.full = s.full) : SeqOK t := by
  unfold SeqOK at *
  rw [h1, h2]
  exact h

theorem seq_doUpdate (eps : Int) {s : Loop} (a b : Int) (h : SeqOK s) : SeqOK (s.doUpdate eps a b).1 := by
  simp only [Loop.doUpdate]
  split
  · refine ⟨Or.inr rfl, fun r hr => ?_⟩
    rcases dropLast_cons_mem hr with ⟨hne, hr⟩ | hr
    · subst hr
      exact h.1.resolve_left hne
    · exact h.2 r hr
  · exact h.congr rfl rfl

theorem seq_enterCompute (eps : Int) {s : Loop} (h : SeqOK s) : SeqOK (s.enterCompute eps).1 :=
  (seq_doUpdate eps (s := { s with eco := s.eco.clear }) EcoConfig.factorComputeNum EcoConfig.factorComputeDen (h.congr rfl rfl)).congr
    rfl rfl

theorem seq_step (eps : Int) {s : Loop} (e : Ev) (h : SeqOK s) : SeqOK (ecoStep eps s e).1 := by
  cases e with
  | tick j0 j1 j2 =>
    have ha : SeqOK (s.advance (max s.now s.due + j0)) := h.congr rfl rfl
    simp only [ecoStep]
    generalize s.advance (max s.now s.due + j0) = sa at *
    cases hp : sa.phase <;> simp only []
    case compute => split <;> exact ha.congr rfl rfl
    case waiting | normal | tank =>
      generalize hu : sa.doUpdate eps _ _ = u
      have hs : SeqOK u.1 := hu ▸ seq_doUpdate eps _ _ ha
      split
      · exact seq_enterCompute eps (hs.congr rfl rfl)
      · split <;> exact hs.congr rfl rfl
    case heating => exact (seq_doUpdate eps _ _ ha).congr rfl rfl
    case heatDelay => exact seq_enterCompute eps ha
  | heat dt | heatEnd dt =>
    have ha : SeqOK (s.advance (s.now + dt)) := h.congr rfl rfl
    simp only [ecoStep]
    split <;> exact ha.congr rfl rfl

theorem seq_run (eps : Int) (evs : List Ev) : ∀ {s : Loop}, SeqOK s → SeqOK (ecoFinal eps s evs) := by
  induction evs with
  | nil => intro s h; exact h
  | cons e es ih => intro s h; exact ih (seq_step eps e h)

theorem seq_start (eps : Int) {p : Params} (hs : p.start < nextResetAt p.start p.resetHour) : SeqOK (Loop.start eps p).1 := by
  unfold SeqOK
  rw [start_days p eps hs]
  exact ⟨Or.inl rfl, fun _ h => nomatch h⟩

/-! ### the record right above a given list of days -/

theorem suffix_head_unique {α : Type} {a b : α} {l L : List α} (h1 : (a :: l) <:+ L) (h2 : (b :: l) <:+ L) : a = b := by
  have h := List.suffix_of_suffix_length_le h1 h2 (by simp)
  have := h.eq_of_length (by simp)
  exact (List.cons.inj this).1

theorem not_cons_suffix {α : Type} (a : α) (l : List α) : ¬ (a :: l) <:+ l := by
  intro h
  have := h.length_le
  simp at this
  omega

end Poupool.Eco
