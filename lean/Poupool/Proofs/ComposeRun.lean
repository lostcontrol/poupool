import Poupool.Proofs.ComposeInv
/-!
  The executable scheduler `run` of `Model/Compose.lean` only produces composed steps.

  What its primitives `eff1` / `deliver1` return is stated once, in the shape of the constructors of `CStep`, and the
  loops `drainN` / `serveN` preserve whatever each round preserves; `Proofs/Compose3.lean` reads the same lemmas with
  the constructors of `TStep`.
-/
namespace Poupool.Compose

theorem noMaster_of_all {l : List (Bool × Msg)} (h : (l.all fun e => !e.1) = true) : noMaster l := by
  intro e he
  simp only [List.all_eq_true, Bool.not_eq_true'] at h
  exact h e he

theorem eff1_elim {S : CSpec} {g g' : CSt} (h : eff1 S g = some g') {P : CSt → Prop}
    (tell : ∀ t rest msg, g.todo = .emit t :: rest → S.tells.lookup t = some msg →
      P { g with inbox := g.inbox ++ [(true, msg)], todo := rest })
    (emit : ∀ t rest, g.todo = .emit t :: rest → S.tells.lookup t = none → P { g with todo := rest })
    (ask : ∀ ans t f rest, g.todo = .ask ans t f :: rest →
      (askHalting S (if ans then t else f) = true → noMaster g.inbox ∧ S.isHalt g.x = true) →
      P { g with todo := rest }) : P g' := by
  revert h
  fun_cases eff1 S g with
  | case1 | case5 => nofun
  | case2 t rest htodo msg ht =>
      rintro ⟨⟩
      exact tell t rest msg htodo ht
  | case3 t rest htodo ht =>
      rintro ⟨⟩
      exact emit t rest htodo ht
  | case4 ans t f rest htodo hc =>
      rintro ⟨⟩
      refine ask ans t f rest htodo fun hq => ?_
      simp only [hq, Bool.not_true, Bool.false_or, Bool.and_eq_true] at hc
      exact ⟨noMaster_of_all hc.1, hc.2⟩

theorem deliver1_elim {S : CSpec} {pick : St → Bool} {g g' : CSt} (h : deliver1 S pick g = some g') :
    ∃ e rest x', g.inbox = e :: rest ∧ e.2 ∈ allMsgs S.DX ∧
      (if e.1 = false ∧ S.isStart e.2 = true then
          g.todo = [] ∧ (if S.allowed.contains g.m.leaf then x' ∈ step S.DX g.x e.2 else x' = g.x)
        else x' ∈ step S.DX g.x e.2) ∧
      g' = { g with x := x', inbox := rest } := by
  revert h
  fun_cases deliver1 S pick g with
  | case1 | case4 | case6 => nofun
  | case2 e rest hin hm hc hidle hal =>
      intro h
      obtain ⟨x', hx, rfl⟩ := find?_map_eq_some h
      exact ⟨e, rest, x', hin, List.contains_iff_mem.1 hm,
        (if_pos (by simpa using hc)).mpr ⟨List.isEmpty_iff.1 hidle, (if_pos hal).mpr hx⟩, rfl⟩
  | case3 e rest hin hm hc hidle hal =>
      rintro ⟨⟩
      exact ⟨e, rest, g.x, hin, List.contains_iff_mem.1 hm,
        (if_pos (by simpa using hc)).mpr ⟨List.isEmpty_iff.1 hidle, (if_neg hal).mpr rfl⟩, rfl⟩
  | case5 e rest hin hm hc =>
      intro h
      obtain ⟨x', hx, rfl⟩ := find?_map_eq_some h
      exact ⟨e, rest, x', hin, List.contains_iff_mem.1 hm, (if_neg (by simpa using hc)).mpr hx, rfl⟩

theorem drainN_induct {S : CSpec} {P : CSt → Prop} (hP : ∀ g g', P g → eff1 S g = some g' → P g') (n : Nat)
    {g g' : CSt} (hg : P g) (h : drainN S n g = some g') : P g' := by
  fun_induction drainN S n g with
  | case1 | case2 =>
      cases h
      exact hg
  | case3 _ _ _ _ he ih => exact ih (hP _ _ hg he) h
  | case4 => cases h

theorem serveN_induct {S : CSpec} {pick : St → Bool} {P : CSt → Prop}
    (hP : ∀ g g', P g → deliver1 S pick g = some g' → P g') (n : Nat) {g g' : CSt} (hg : P g)
    (h : serveN S pick n g = some g') : P g' := by
  fun_induction serveN S pick n g with
  | case1 | case2 =>
      cases h
      exact hg
  | case3 _ _ _ _ he ih => exact ih (hP _ _ hg he) h
  | case4 => cases h

theorem eff1_sound {S : CSpec} {g g' : CSt} (h : eff1 S g = some g') : CStep S g g' :=
  eff1_elim h (CStep.mTell g) (CStep.mEmit g) (CStep.mAsk g)

theorem deliver1_sound {S : CSpec} {pick : St → Bool} {g g' : CSt} (h : deliver1 S pick g = some g') :
    CStep S g g' := by
  obtain ⟨e, rest, x', hin, hm, hs, rfl⟩ := deliver1_elim h
  exact CStep.deliver g e rest x' hin hm hs

theorem act_reach {S : CSpec} {g g' : CSt} {a : Act} (hr : CReach S g) (h : act S g a = some g') : CReach S g' := by
  cases a with
  | drain => exact drainN_induct (fun _ _ hr h => hr.step (eff1_sound h)) _ hr h
  | eff => exact hr.step (eff1_sound h)
  | deliver pick => exact hr.step (deliver1_sound h)
  | serve pick => exact serveN_induct (fun _ _ hr h => hr.step (deliver1_sound h)) _ hr h
  | master msg pick =>
      obtain ⟨hc, h⟩ := Option.ite_none_right_eq_some.1 h
      obtain ⟨⟨m', effs⟩, hf, rfl⟩ := find?_map_eq_some h
      simp only [Bool.and_eq_true, List.isEmpty_iff, List.contains_iff_mem] at hc
      exact hr.step (CStep.mBegin g msg m' effs hc.1 hc.2 hf)
  | other m =>
      obtain ⟨hc, h⟩ := Option.ite_none_right_eq_some.1 h
      cases h
      exact hr.step (CStep.other g m (List.contains_iff_mem.1 hc))

theorem run_sound (S : CSpec) (as : List Act) : ∀ (g g' : CSt), CReach S g → run S as g = some g' → CReach S g' := by
  intro g g' hr h
  fun_induction run S as g with
  | case1 =>
      cases h
      exact hr
  | case2 _ _ _ _ ha ih => exact ih (act_reach hr ha) h
  | case3 => cases h

/-- a two-stage run from the initial state whose check `f` came out true: both states reached are reachable -/
theorem run_demo {S : CSpec} {as bs : List Act} {f : CSt → CSt → Bool}
    (h : ((run S as (cinit S)).bind fun g1 => (run S bs g1).map (f g1)) = some true) :
    ∃ g1 g2, CReach S g1 ∧ run S bs g1 = some g2 ∧ CReach S g2 ∧ f g1 g2 = true := by
  obtain ⟨g1, h1, h⟩ := Option.bind_eq_some_iff.1 h
  obtain ⟨g2, h2, h⟩ := Option.map_eq_some_iff.1 h
  have r1 := run_sound S _ _ _ CReach.init h1
  exact ⟨g1, g2, r1, h2, run_sound S _ _ _ r1 h2, h⟩

end Poupool.Compose
