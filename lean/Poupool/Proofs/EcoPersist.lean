/-
  C11 helper lemmas: the persistence rule of `EcoMode.update`, order independence of the restore, the
  dispatcher's `once` rule, monotone counters.
-/
import Poupool.Proofs.EcoArith
namespace Poupool.Eco
open Poupool.Generated

theorem cfg_save : EcoConfig.saveIntervalUs = 300000000 := by decide
theorem cfg_keepElapsed : EcoConfig.keepElapsed = true := by decide

/-- an operation on the EcoMode of a running process: a poll (`update(now, factor)`) or a state change (`clear`) -/
inductive POp
  | update (now fnum fden : Int)
  | clear
  deriving Repr, DecidableEq

/-- EcoMode + ghost: `filtration.duration` when `/status/filtration/duration` was last published, time of the last poll -/
structure PSt where
  e : EcoMode
  saved : Int
  tnow : Int

def PSt.step (s : PSt) : POp → PSt
  | .update now fnum fden =>
    let r := s.e.update now fnum fden
    { e := r.1, saved := if r.2.persisted.isSome then r.1.filtration.duration else s.saved, tnow := now }
  | .clear => { s with e := s.e.clear }

/-- polls at non-decreasing instants, factors in [0, 1] -/
def opsOK : Int → List POp → Prop
  | _, [] => True
  | t, .update now fnum fden :: r => t ≤ now ∧ 0 ≤ fnum ∧ fnum ≤ fden ∧ 0 < fden ∧ opsOK now r
  | t, .clear :: r => opsOK t r

structure PInv (s : PSt) : Prop where
  h1 : s.e.lastSave ≤ s.tnow
  h2 : ∀ l, s.e.filtration.last = some l → l = s.tnow
  h3 : s.saved ≤ s.e.filtration.duration
  h4 : s.e.filtration.duration - s.saved ≤ s.tnow - s.e.lastSave
  h5 : s.tnow - s.e.lastSave ≤ EcoConfig.saveIntervalUs

theorem pstep_inv {s : PSt} (h : PInv s) {op : POp} {r : List POp} (hok : opsOK s.tnow (op :: r)) :
    PInv (s.step op) ∧ opsOK (s.step op).tnow r := by
  obtain ⟨h1, h2, h3, h4, h5⟩ := h
  have hsv := cfg_save
  cases op with
  | clear => exact ⟨⟨h1, (fun l hl => nomatch hl), h3, h4, h5⟩, hok⟩
  | update now fnum fden =>
    obtain ⟨ht, hf0, hf1, hfd, hr⟩ := hok
    refine ⟨?_, hr⟩
    -- the poll accounts at most the time since the previous one
    have hg : 0 ≤ s.e.filtration.gain now fnum fden ∧ s.e.filtration.gain now fnum fden ≤ now - s.tnow := by
      cases hl : s.e.filtration.last with
      | none =>
        rw [Timer.gain_none _ _ _ _ hl]
        exact ⟨Int.le_refl 0, by omega⟩
      | some l0 =>
        unfold Timer.gain
        rw [hl, h2 l0 hl]
        exact scale_bounds (by omega) hf0 hf1 hfd
    simp only [PSt.step, EcoMode.update, Timer.update_eq]
    have hlast : ∀ l, some now = some l → l = now := fun l hl => (Option.some.inj hl).symm
    by_cases hr : s.e.nextReset ≤ now
    · -- reset: the duration restarts from zero and is published
      simp only [hr, decide_true, Bool.or_true, if_true, Option.isSome_some, Timer.reset]
      exact ⟨Int.le_refl _, (fun l hl => nomatch hl), Int.le_refl _, by dsimp only; omega, by dsimp only; omega⟩
    · by_cases hs : EcoConfig.saveIntervalUs < now - s.e.lastSave
      · simp only [hr, hs, decide_true, decide_false, Bool.or_false, if_true, Bool.false_eq_true, if_false, Option.isSome_some]
        exact ⟨Int.le_refl _, hlast, Int.le_refl _, by dsimp only; omega, by dsimp only; omega⟩
      · simp only [hr, hs, decide_false, Bool.or_false, Bool.false_eq_true, if_false, Option.isSome_none]
        exact ⟨by dsimp only; omega, hlast, by dsimp only; omega, by dsimp only; omega, by dsimp only; omega⟩

theorem prun_inv : ∀ {ops : List POp} {s : PSt}, PInv s → opsOK s.tnow ops → PInv (ops.foldl PSt.step s) := by
  intro ops
  induction ops with
  | nil => intro s h _; exact h
  | cons op r ih =>
    intro s h hok
    obtain ⟨h', hok'⟩ := pstep_inv h hok
    exact ih h' hok'

inductive SMsg
  | daily (s : Int)            -- /settings/filtration/duration  -> Filtration.duration
  | restore (v : Int)          -- /status/filtration/duration    -> Filtration.restore_duration
  | period (p : Int)
  | tank (n d : Int)
  | resetHour (now h : Int)
  deriving Repr, DecidableEq

def applyMsg (e : EcoMode) : SMsg → EcoMode
  | .daily s => e.fltDuration s
  | .restore v => e.restore v
  | .period p => e.setPeriod p
  | .tank n d => e.setTank n d
  | .resetHour now h => e.setResetHour now h

/-- If every restore in `ms` carries `v`, the accounted duration afterwards is `v` as soon as it is `v` already or a restore occurs:
only `restore` changes it; `Filtration.duration` puts it back. -/
theorem foldl_restore {v : Int} : ∀ {ms : List SMsg} {e : EcoMode}, (∀ w, SMsg.restore w ∈ ms → w = v) →
    (e.filtration.duration = v * US ∨ SMsg.restore v ∈ ms) → (ms.foldl applyMsg e).filtration.duration = v * US := by
  intro ms
  induction ms with
  | nil => intro e _ h; exact h.resolve_right (by simp)
  | cons m r ih =>
    intro e hall h
    refine ih (fun w hw => hall w (List.mem_cons_of_mem _ hw)) ?_
    cases m with
    | restore w => exact Or.inl (by rw [hall w (List.mem_cons_self ..)]; rfl)
    | daily s =>
      refine h.imp (fun h0 => ?_) fun hm => (List.mem_cons.mp hm).resolve_left (by simp)
      show (e.fltDuration s).filtration.duration = _
      rw [EcoMode.fltDuration_eq cfg_keepElapsed]
      exact h0
    | _ => exact h.imp_right fun hm => (List.mem_cons.mp hm).resolve_left (by simp)

theorem applied_le {t : Topic} (ho : t.once = true) : ∀ (ts : List Topic) (d : Disp),
    Disp.applied t d ts ≤ if d.deleted.contains t then 0 else 1 := by
  intro ts
  induction ts with
  | nil => intro d; exact Nat.zero_le _
  | cons x xs ih =>
    intro d
    unfold Disp.applied Disp.dispatch
    by_cases hx : d.deleted.contains x = true
    · simp only [hx, if_true, Bool.false_and, Bool.false_eq_true, if_false, Nat.zero_add]
      exact ih d
    · simp only [hx, Bool.false_eq_true, if_false, Bool.true_and]
      by_cases hxt : x = t
      · -- the first delivery: the entry is deleted
        subst hxt
        have := ih { deleted := x :: d.deleted }
        simp only [List.contains_cons, beq_self_eq_true, Bool.true_or, if_true] at this
        simp only [beq_self_eq_true, if_true, ho, hx, Bool.false_eq_true, if_false]
        omega
      · have hne : (x == t) = false := beq_eq_false_iff_ne.mpr hxt
        rw [hne, if_neg Bool.false_ne_true, Nat.zero_add]
        by_cases hxo : x.once = true
        · have := ih { deleted := x :: d.deleted }
          rw [List.contains_cons, Bool.beq_comm, hne, Bool.false_or] at this
          rwa [if_pos hxo]
        · rw [if_neg hxo]
          exact ih d

theorem applied_le_one {t : Topic} (ho : t.once = true) (ts : List Topic) (d : Disp) : Disp.applied t d ts ≤ 1 :=
  Nat.le_trans (applied_le ho ts d) (by split <;> omega)

/-- the broker retains the last publish; unless a restore is pending, the process holds at least the retained value -/
structure CInv (c : Counter) (pending : Bool) : Prop where
  hq : 0 < c.q
  hmono : nonDecreasing c.pubs = true
  hhead : c.retained = c.pubs.head?
  hval : pending = false → ∀ v, c.retained = some v → v ≤ divNearest c.total c.q

theorem counter_run : ∀ {evs : List CEv} {c : Counter} (p : Bool), CInv c p → restoreFirst p evs = true →
    (∀ d, CEv.add d ∈ evs → 0 ≤ d) → nonDecreasing (c.run evs).pubs = true := by
  intro evs
  induction evs with
  | nil => intro c p h _ _; exact h.hmono
  | cons e r ih =>
    intro c p h hrf hpos
    have hpos' := fun d hd => hpos d (List.mem_cons_of_mem _ hd)
    obtain ⟨hq, hmono, hhead, hval⟩ := h
    show nonDecreasing ((c.step e).run r).pubs = true
    cases e with
    | kill => exact ih true ⟨hq, hmono, hhead, fun hp => nomatch hp⟩ hrf hpos'
    | restore =>
      refine ih false ?_ hrf hpos'
      cases hr : c.retained with
      | none =>
        simp only [Counter.step, hr]
        exact ⟨hq, hmono, hhead, fun _ v hv => by rw [hr] at hv; cases hv⟩
      | some v =>
        simp only [Counter.step, hr]
        refine ⟨hq, hmono, hr ▸ hhead, fun _ w hw => ?_⟩
        cases hw
        rw [divNearest_mul_self v c.q hq]
        exact Int.le_refl _
    | add d =>
      simp only [restoreFirst, Bool.and_eq_true, Bool.not_eq_true'] at hrf
      refine ih p ?_ hrf.2 hpos'
      have hm := divNearest_mono c.total (c.total + d) c.q hq (by have := hpos d (List.mem_cons_self ..); omega)
      refine ⟨hq, ?_, rfl, fun _ w hw => by cases hw; exact Int.le_refl _⟩
      -- the new publish is at least the last one, which the process held
      cases hpubs : c.pubs with
      | nil => simp [Counter.step, hpubs, nonDecreasing]
      | cons a rest =>
        rw [hpubs] at hmono hhead
        have := hval hrf.1 a hhead
        simp only [Counter.step, hpubs, nonDecreasing, Bool.and_eq_true, decide_eq_true_eq]
        exact ⟨by omega, hmono⟩
end Poupool.Eco
