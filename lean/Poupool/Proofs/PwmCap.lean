/-
One `do_run` of the PWM model, and the lemmas for C03: the security timer bounds the energised time of the pump.

One do_run.  `block` has four outcomes (`block_cases`); `dailyReset` and the final `__last = now` touch no field the
phase logic reads.  From these: what the security argument reads (`block_cap`, `tick_sec`), what the phase arguments
read (`tick_phase`), and what a do_run leaves alone (`tick_frame`).  Nothing below or in Proofs/PwmDuty.lean,
Proofs/PwmFraction.lean unfolds `block` or `tick` again.

Ghost semantics: an op list (`wait d`, `tick`, `cancel`, `setValue`, `setPeriod`) is run from an arbitrary start; the
ghost state records the current instant, the instant of the last `do_run`, and the energised time (µs the pump device
was on) since the last daily reset.  Time only passes in `wait`.
-/
import Poupool.Model.Pwm

namespace Poupool.Pwm

def onOf (s : PwmState) : Rat := dutyOn s.value s.period s.minRuntime

/-- `__duration` after the `+= diff` and `constrain` of the tick at instant `t` -/
def durAt (t : Int) (l : Rat) (s : PwmState) : Rat := constrain (s.duration + (secs t - l)) 0 s.period

/-- `done` of the on-branch, together with `duty_on != period` -/
def Done (t : Int) (l : Rat) (s : PwmState) : Prop :=
  onOf s ≤ durAt t l s ∧ s.minRuntime ≤ durAt t l s ∧ onOf s ≠ s.period

/-- the test of the off-branch, security timer aside (`duty_off != period` is `duty_on != 0`) -/
def Due (t : Int) (l : Rat) (s : PwmState) : Prop :=
  s.period - onOf s ≤ durAt t l s ∧ onOf s ≠ 0

theorem block_cases (t : Int) (l : Rat) (s : PwmState) :
    (s.state = true ∧ (Done t l s ∨ (s.sec.update t 1).elapsed = true) ∧
      block t l s = { s with duration := 0, state := false, pumpOn := false, sec := s.sec.update t 1 }) ∨
    (s.state = true ∧ ¬ Done t l s ∧ (s.sec.update t 1).elapsed = false ∧
      block t l s = { s with duration := durAt t l s, sec := s.sec.update t 1 }) ∨
    (s.state = false ∧ Due t l s ∧ (s.sec.update t 0).elapsed = false ∧
      block t l s = { s with duration := 0, state := true, pumpOn := true, sec := s.sec.update t 0 }) ∨
    (s.state = false ∧ (¬ Due t l s ∨ (s.sec.update t 0).elapsed = true) ∧
      block t l s = { s with duration := durAt t l s, sec := s.sec.update t 0 }) := by
  unfold block Done Due durAt onOf
  cases s.state
  · simp only [Bool.false_eq_true, if_false]
    split <;> grind
  · simp only [if_true]
    split <;> grind

theorem dailyReset_eq (c : Cfg) (t : Int) (s : PwmState) :
    dailyReset c t s = { s with
      sec := if t > s.securityReset then s.sec.reset else s.sec
      securityReset := if t > s.securityReset then s.securityReset + c.resetPeriodUs else s.securityReset } := by
  unfold dailyReset
  split <;> rfl

theorem tick_of_none (c : Cfg) (t : Int) {s : PwmState} (h : s.last = none) :
    tick c t s = { dailyReset c t s with last := some (secs t) } := by
  unfold tick
  rw [h]

theorem tick_of_some (c : Cfg) (t : Int) {s : PwmState} {l : Rat} (h : s.last = some l) :
    tick c t s = { dailyReset c t (block t l s) with last := some (secs t) } := by
  unfold tick
  rw [h]

theorem block_cap (t : Int) (l : Rat) (s : PwmState) :
    (block t l s).sec = s.sec.update t (if s.state then 1 else 0) ∧ (block t l s).last = s.last ∧
    (block t l s).securityReset = s.securityReset ∧
    (s.pumpOn = s.state → (block t l s).pumpOn = (block t l s).state ∧
      ((block t l s).pumpOn = true → (block t l s).sec.elapsed = false)) := by
  rcases block_cases t l s with ⟨hs, _, e⟩ | ⟨hs, _, hc, e⟩ | ⟨hs, _, hc, e⟩ | ⟨hs, _, e⟩ <;> rw [e]
  · simp [hs]
  · simp [hs, hc]
  · simp [hs, hc]
  · simp only [hs, Bool.false_eq_true, if_false, true_and]
    intro h
    simp [h]

theorem tick_sec (c : Cfg) (t : Int) {s : PwmState} {l : Rat} (hl : s.last = some l) :
    (tick c t s).sec = if t > s.securityReset then (s.sec.update t (if s.state then 1 else 0)).reset
      else s.sec.update t (if s.state then 1 else 0) := by
  obtain ⟨b1, _, b3, _⟩ := block_cap t l s
  rw [tick_of_some c t hl, dailyReset_eq, b1, b3]

theorem tick_phase (c : Cfg) (t : Int) {s : PwmState} {l : Rat} (hl : s.last = some l) (hco : s.pumpOn = s.state) :
    (tick c t s).pumpOn = (tick c t s).state ∧
    ((tick c t s).state = true ↔
      (s.sec.update t (if s.state then 1 else 0)).elapsed = false ∧ if s.state then ¬ Done t l s else Due t l s) ∧
    (tick c t s).duration = if s.state = (tick c t s).state then durAt t l s else 0 := by
  rw [tick_of_some c t hl, dailyReset_eq]
  rcases block_cases t l s with ⟨hs, hc, e⟩ | ⟨hs, hc, hk, e⟩ | ⟨hs, hc, hk, e⟩ | ⟨hs, hc, e⟩ <;> rw [e] <;>
    simp only [hs, hco, if_true, if_false, Bool.false_eq_true, reduceCtorEq, true_and, false_iff, true_iff] <;> grind

theorem tick_frame (c : Cfg) (t : Int) (s : PwmState) :
    (tick c t s).last = some (secs t) ∧ (tick c t s).period = s.period ∧ (tick c t s).minRuntime = s.minRuntime ∧
    (tick c t s).value = s.value ∧ (tick c t s).sec.delay = s.sec.delay := by
  cases hl : s.last with
  | none =>
    rw [tick_of_none c t hl, dailyReset_eq]
    dsimp only
    split <;> simp [Timer.reset]
  | some l =>
    rw [tick_of_some c t hl, dailyReset_eq]
    rcases block_cases t l s with ⟨_, _, e⟩ | ⟨_, _, _, e⟩ | ⟨_, _, _, e⟩ | ⟨_, _, e⟩ <;> rw [e] <;> dsimp only <;>
      split <;> simp [Timer.reset, Timer.update]

theorem onOf_tick (c : Cfg) (t : Int) (s : PwmState) : onOf (tick c t s) = onOf s := by
  obtain ⟨_, h1, h2, h3, _⟩ := tick_frame c t s
  unfold onOf
  rw [h1, h2, h3]

theorem tick_stays_off (c : Cfg) (t : Int) {s : PwmState} (h0 : onOf s = 0) (hs : s.state = false) :
    (tick c t s).state = false ∧ (tick c t s).pumpOn = s.pumpOn := by
  cases hl : s.last with
  | none =>
    rw [tick_of_none c t hl, dailyReset_eq]
    exact ⟨hs, rfl⟩
  | some l =>
    rw [tick_of_some c t hl, dailyReset_eq]
    rcases block_cases t l s with ⟨h, _⟩ | ⟨h, _⟩ | ⟨_, h, _⟩ | ⟨_, _, e⟩
    · cases hs.symm.trans h
    · cases hs.symm.trans h
    · exact absurd h0 h.2
    · rw [e]
      exact ⟨hs, rfl⟩

inductive Op where
  | wait (d : Int)
  | tick
  | cancel
  | setValue (v : Rat)
  | setPeriod (p : Rat)

structure G where
  s : PwmState
  /-- current instant (µs) -/
  clock : Int
  lastTick : Int
  /-- energised time of the pump since the last daily reset (or construction), µs -/
  energ : Int
  resets : Nat

def stepG (c : Cfg) (g : G) : Op → G
  | .wait d => { g with clock := g.clock + d, energ := g.energ + (if g.s.pumpOn then d else 0) }
  | .tick =>
    { g with
      s := tick c g.clock g.s
      lastTick := g.clock
      energ := if g.clock > g.s.securityReset then 0 else g.energ
      resets := if g.clock > g.s.securityReset then g.resets + 1 else g.resets }
  | .cancel => { g with s := cancel g.clock g.s }
  | .setValue v => { g with s := setValue v g.s }
  | .setPeriod p => { g with s := setPeriod p g.s }

def runG (c : Cfg) (g : G) (ops : List Op) : G := ops.foldl (stepG c) g

/-- The only assumption on the schedule: time does not run backwards, and while the pump is energised the next
`do_run` (or `do_cancel`) comes at most `Δ` after the previous `do_run`. -/
def okOp (Δ : Int) (g : G) : Op → Prop
  | .wait d => 0 ≤ d ∧ (g.s.pumpOn = true → g.clock + d - g.lastTick ≤ Δ)
  | _ => True

def Valid (c : Cfg) (Δ : Int) : G → List Op → Prop
  | _, [] => True
  | g, op :: ops => okOp Δ g op ∧ Valid c Δ (stepG c g op) ops

instance decOkOp (Δ : Int) (g : G) (op : Op) : Decidable (okOp Δ g op) := by
  cases op <;> unfold okOp <;> infer_instance

def decValid (c : Cfg) (Δ : Int) : (g : G) → (ops : List Op) → Decidable (Valid c Δ g ops)
  | _, [] => isTrue trivial
  | g, op :: ops => @instDecidableAnd _ _ (decOkOp Δ g op) (decValid c Δ (stepG c g op) ops)

instance (c : Cfg) (Δ : Int) (g : G) (ops : List Op) : Decidable (Valid c Δ g ops) := decValid c Δ g ops

def G.init (c : Cfg) (period minRt : Rat) (secDur : Int) (start : Int) : G :=
  { s := PwmState.init c period minRt secDur start, clock := start, lastTick := start, energ := 0, resets := 0 }

structure Inv (Δ : Int) (g : G) : Prop where
  hstate : g.s.pumpOn = g.s.state
  hlast : g.s.pumpOn = true → g.s.last ≠ none
  hclk : g.lastTick ≤ g.clock
  hu : g.s.pumpOn = true → g.clock - g.lastTick ≤ Δ
  hsecl : g.s.pumpOn = true → g.s.sec.last = some g.lastTick ∨ g.s.sec.last = none
  hd0 : 0 ≤ g.s.sec.duration
  hdon : g.s.pumpOn = true → g.s.sec.duration < g.s.sec.delay
  hdall : g.s.sec.duration ≤ g.s.sec.delay + Δ
  /-- energised ≤ counted + (running, to be counted at the next tick) + one tick, the one tick being already spent
      when the timer has no reference instant (right after a daily reset with the pump on) -/
  he : g.energ ≤ g.s.sec.duration
        + (if g.s.pumpOn then g.clock - g.lastTick else 0)
        + (if g.s.pumpOn = true ∧ g.s.sec.last = none then 0 else Δ)

variable {Δ : Int} {g : G}

theorem inv_init (c : Cfg) {period minRt : Rat} {secDur start Δ : Int}
    (hS : 0 ≤ secDur * c.securityUnitUs) (hΔ : 0 ≤ Δ) : Inv Δ (G.init c period minRt secDur start) := by
  refine ⟨rfl, ?_, ?_, ?_, ?_, ?_, ?_, ?_, ?_⟩ <;>
    simp [G.init, PwmState.init, Timer.mk'] <;> omega

theorem inv_wait (c : Cfg) {d : Int} (h : Inv Δ g) (ok : okOp Δ g (.wait d)) :
    Inv Δ (stepG c g (.wait d)) := by
  obtain ⟨hd, hdl⟩ := ok
  have hclk := h.hclk
  have he := h.he
  refine { h with hclk := ?_, hu := fun hp => ?_, he := ?_ } <;> simp only [stepG]
  · omega
  · have := hdl hp
    omega
  · -- `d` is added on both sides if the pump is on, on neither if it is off
    rcases Bool.eq_false_or_eq_true g.s.pumpOn with hp | hp <;>
      simp only [hp, Bool.false_eq_true, false_and, true_and, if_true, if_false] at he ⊢ <;>
      omega

theorem Timer.elapsed_eq_false (t : Timer) : t.elapsed = false ↔ t.duration < t.delay := by
  simp only [Timer.elapsed, decide_eq_false_iff_not]
  omega

theorem Timer.update_duration (t : Timer) (now k : Int) :
    (t.update now k).duration = match t.last with | some l => t.duration + k * (now - l) | none => t.duration := rfl

/-- All the cap argument needs of a do_run or do_cancel; the phase arithmetic plays no part. -/
theorem Inv.update (h : Inv Δ g) (hΔ : 0 ≤ Δ) {s' : PwmState}
    (hsec : s'.sec = g.s.sec.update g.clock (if g.s.state then 1 else 0))
    (hco : s'.pumpOn = s'.state) (hlast : s'.pumpOn = true → s'.last ≠ none)
    (hon : s'.pumpOn = true → s'.sec.elapsed = false) :
    Inv Δ { g with s := s', lastTick := g.clock } := by
  obtain ⟨hstate, -, hclk, hu, hsecl, hd0, hdon, hdall, he⟩ := h
  rw [Timer.elapsed_eq_false] at hon
  have hd : s'.sec.delay = g.s.sec.delay := by
    rw [hsec]
    rfl
  have hl : s'.sec.last = some g.clock := by
    rw [hsec]
    rfl
  -- the update adds the running interval if the pump was on and the timer had its reference instant, else nothing
  have key : 0 ≤ s'.sec.duration ∧ s'.sec.duration ≤ g.s.sec.delay + Δ ∧ g.energ ≤ s'.sec.duration + Δ := by
    rw [hsec, ← hstate, Timer.update_duration]
    cases hp : g.s.pumpOn
    · simp only [hp, Bool.false_eq_true, false_and, if_false] at he
      cases g.s.sec.last <;> simp only [Bool.false_eq_true, if_false] <;> omega
    · have := hu hp
      have := hdon hp
      simp only [hp, if_true, true_and] at he
      rcases hsecl hp with hsl | hsl <;> simp only [hsl, if_true, reduceCtorEq, if_false] at he ⊢ <;> omega
  refine ⟨hco, hlast, Int.le_refl _, fun _ => ?_, fun _ => Or.inl hl, key.1, hon, ?_, ?_⟩ <;> dsimp only
  · omega
  · rw [hd]
    exact key.2.1
  · rw [hl]
    simp only [reduceCtorEq, and_false, if_false]
    omega

/-- with the pump off the invariant reads the count of the timer and nothing else of the PWM -/
theorem Inv.of_off {g' : G} (h : Inv Δ g) (hp : g.s.pumpOn = false) (hp' : g'.s.pumpOn = false)
    (hs' : g'.s.state = false) (hclk : g'.lastTick ≤ g'.clock) (hdur : g'.s.sec.duration = g.s.sec.duration)
    (hdel : g'.s.sec.delay = g.s.sec.delay) (he : g'.energ = g.energ) : Inv Δ g' := by
  have h9 := h.he
  simp only [hp, Bool.false_eq_true, false_and, if_false] at h9
  refine ⟨hp'.trans hs'.symm, ?_, hclk, ?_, ?_, hdur ▸ h.hd0, ?_, hdur ▸ hdel ▸ h.hdall, ?_⟩
  iterate 4 (intro hq; rw [hp'] at hq; cases hq)
  simp only [hp', Bool.false_eq_true, false_and, if_false]
  omega

/-- the daily reset and `self.__last = now`, right after the block (so `lastTick = clock`) -/
theorem Inv.finish (c : Cfg) {x : Rat} (h : Inv Δ g) (hΔ : 0 ≤ Δ) (hlt : g.lastTick = g.clock) :
    Inv Δ { g with
      s := { dailyReset c g.clock g.s with last := some x }
      energ := if g.clock > g.s.securityReset then 0 else g.energ
      resets := if g.clock > g.s.securityReset then g.resets + 1 else g.resets } := by
  obtain ⟨hstate, hlast, hclk, hu, hsecl, hd0, hdon, hdall, he⟩ := h
  rw [dailyReset_eq]
  by_cases hr : g.clock > g.s.securityReset <;> simp only [hr, if_true, if_false]
  · -- count, reference instant and energised time all start afresh; nothing is pending since `lastTick = clock`
    refine ⟨hstate, fun _ => Option.some_ne_none x, hclk, hu, fun _ => Or.inr rfl, Int.le_refl 0, fun hp => ?_, ?_, ?_⟩ <;>
      dsimp only [Timer.reset]
    · have := hdon hp
      omega
    · omega
    · omega
  · exact ⟨hstate, fun _ => Option.some_ne_none x, hclk, hu, hsecl, hd0, hdon, hdall, he⟩

theorem inv_tick (c : Cfg) (h : Inv Δ g) (hΔ : 0 ≤ Δ) : Inv Δ (stepG c g .tick) := by
  simp only [stepG]
  cases hl : g.s.last with
  | none =>
    have hp : g.s.pumpOn = false := Bool.eq_false_iff.mpr fun hq => h.hlast hq hl
    rw [tick_of_none c _ hl]
    exact Inv.finish c (g := { g with lastTick := g.clock })
      (h.of_off hp hp (h.hstate ▸ hp) (Int.le_refl _) rfl rfl rfl) hΔ rfl
  | some l =>
    obtain ⟨b1, b2, b3, hb⟩ := block_cap g.clock l g.s
    obtain ⟨b4, b5⟩ := hb h.hstate
    rw [tick_of_some c _ hl, ← b3]
    exact Inv.finish c (h.update hΔ b1 b4 (fun _ => by rw [b2, hl]; exact Option.some_ne_none l) b5) hΔ rfl

theorem inv_cancel (c : Cfg) (h : Inv Δ g) (hΔ : 0 ≤ Δ) : Inv Δ (stepG c g .cancel) := by
  simp only [stepG, cancel]
  cases hs : g.s.state
  · exact h.of_off (h.hstate.trans hs) rfl rfl h.hclk rfl rfl rfl
  · -- the update of do_cancel, seen as a do_run that leaves the pump off
    have := h.update hΔ (s' := { g.s with sec := g.s.sec.update g.clock 1, state := false, pumpOn := false })
      (by rw [hs]; rfl) rfl nofun nofun
    exact this.of_off rfl rfl rfl h.hclk rfl rfl rfl

theorem inv_step (c : Cfg) {op : Op} (h : Inv Δ g) (hΔ : 0 ≤ Δ) (ok : okOp Δ g op) :
    Inv Δ (stepG c g op) := by
  cases op with
  | wait d => exact inv_wait c h ok
  | tick => exact inv_tick c h hΔ
  | cancel => exact inv_cancel c h hΔ
  | setValue v | setPeriod p => exact { h with }

theorem inv_run (c : Cfg) (hΔ : 0 ≤ Δ) {ops : List Op} (h : Inv Δ g) (hv : Valid c Δ g ops) :
    Inv Δ (runG c g ops) := by
  induction ops generalizing g with
  | nil => exact h
  | cons op ops ih => exact ih (inv_step c h hΔ hv.1) hv.2

theorem delay_step (c : Cfg) (g : G) (op : Op) : (stepG c g op).s.sec.delay = g.s.sec.delay := by
  cases op with
  | tick => exact (tick_frame c g.clock g.s).2.2.2.2
  | cancel =>
    simp only [stepG, cancel, Timer.clear, Timer.update]
    split <;> rfl
  | _ => rfl

theorem delay_run (c : Cfg) (ops : List Op) (g : G) : (runG c g ops).s.sec.delay = g.s.sec.delay :=
  List.foldlRecOn (motive := fun g' => g'.s.sec.delay = g.s.sec.delay) ops (stepG c) rfl
    fun a h b _ => (delay_step c a b).trans h

theorem inv_of_init (c : Cfg) {period minRt : Rat} {secDur start Δ u : Int} {ops : List Op}
    (hu : c.securityUnitUs = u) (hS : 0 ≤ secDur * u) (hΔ : 0 ≤ Δ)
    (hv : Valid c Δ (G.init c period minRt secDur start) ops) :
    Inv Δ (runG c (G.init c period minRt secDur start) ops) ∧
    (runG c (G.init c period minRt secDur start) ops).s.sec.delay = secDur * u :=
  ⟨inv_run c hΔ (inv_init c (hu ▸ hS) hΔ) hv, hu ▸ delay_run c ops _⟩

theorem inv_bound (h : Inv Δ g) : g.energ ≤ g.s.sec.delay + 2 * Δ := by
  have h9 := h.he
  have h8 := h.hdall
  cases hp : g.s.pumpOn <;> simp only [hp, Bool.false_eq_true, false_and, true_and, if_true, if_false] at h9
  · omega
  · have := h.hu hp
    have := h.hdon hp
    omega

end Poupool.Pwm
