/-
  From the `eco_compute` that follows a heating interlude to the poll that sees the reset.

  The invariants `Inv` / `DayInv` of the tick-only proofs demand `gPlain = true` and closed records for every finished day, so
  they break at `heat`.  They are re-used through a *shadow* of the state: the day bookkeeping (`full`, `gPlain`, `days`, `gU`,
  `onToday`) overridden.  `ecoStep` never reads those fields, so before the reset the shadow of a tick is the tick of the shadow
  and the tick theorems apply to the shadow.  `Tail`: timers and plans (shadow that is not a whole day).  `PostHeat`: the
  accounting of a whole day, the pump-on time that the interlude left unaccounted taken off.  `Late`: the quota was used up
  when the interlude ended.  `after_interlude`: the ticks until the reset poll; what the day's LAST interlude determines about
  its pump-on time (`LastBounds`).
-/
import Poupool.Proofs.EcoDayInv
import Poupool.Proofs.EcoInterlude

namespace Poupool.Eco
open Poupool.Generated

/-- `k && s.full` in this order: the field reduces by `rfl` for a given `k`. -/
def shadow (X Y : Int) (k : Bool) (s : Loop) : Loop :=
  { s with full := k && s.full, gPlain := true, days := [], gU := s.gU + X, onToday := s.onToday + Y }

/-- `s'` is later than `s` under the same plan, no reset in between: `gU` has not grown faster than `gJ`, the pump-on time not faster
than the clock.  A conjunction and not a structure: a state that differs from `s'` in other fields satisfies it by unfolding. -/
def SamePlan (s s' : Loop) : Prop :=
  s'.days = s.days ∧ s'.full = s.full ∧ s'.gPlain = s.gPlain ∧ s'.gU - s'.gJ ≤ s.gU - s.gJ
  ∧ s'.onToday - s'.now ≤ s.onToday - s.now ∧ s'.gDc = s.gDc ∧ s'.gRc = s.gRc ∧ s'.eco.nextReset = s.eco.nextReset

theorem SamePlan.refl (s : Loop) : SamePlan s s := ⟨rfl, rfl, rfl, Int.le_refl _, Int.le_refl _, rfl, rfl, rfl⟩

theorem SamePlan.trans {a b c : Loop} (h : SamePlan a b) (k : SamePlan b c) : SamePlan a c := by
  obtain ⟨h1, h2, h3, h4, h5, h6, h7, h8⟩ := h
  obtain ⟨k1, k2, k3, k4, k5, k6, k7, k8⟩ := k
  exact ⟨k1.trans h1, k2.trans h2, k3.trans h3, Int.le_trans k4 h4, Int.le_trans k5 h5, k6.trans h6, k7.trans h7, k8.trans h8⟩

theorem shadow_polled (X Y : Int) (k : Bool) (s : Loop) (eps j0 fnum fden : Int) (h : ¬ s.eco.nextReset ≤ max s.now s.due + j0) :
    polled eps (shadow X Y k s) j0 fnum fden = shadow X Y k (polled eps s j0 fnum fden) := by
  rw [polled_noreset eps s j0 fnum fden h, polled_noreset eps (shadow X Y k s) j0 fnum fden h]
  simp only [shadow, Int.add_right_comm]
  rfl

theorem samePlan_polled {s : Loop} {j0 : Int} (eps fnum fden : Int) (hj : 0 ≤ j0) (h : ¬ s.eco.nextReset ≤ max s.now s.due + j0) :
    SamePlan s (polled eps s j0 fnum fden) := by
  rw [polled_noreset eps s j0 fnum fden h]
  refine ⟨rfl, rfl, rfl, Int.le_refl _, ?_, rfl, rfl, rfl⟩
  dsimp only
  split <;> omega

/-- Each of the three `on_enter_…` of the cycle, entered from `q` at `t`, only adds to `gU` and to the pump-on time: it commutes with
the shadow (`q'` is the shadow of `q`) and stays under the plan of `s`. -/
theorem after_enter (X Y : Int) (k : Bool) (f : Loop → Int → Loop × Rec) {s q q' : Loop} {t eps : Int} (he : 0 ≤ eps)
    (hq : q' = shadow X Y k q) (hk : SamePlan s q) (ht : q.now ≤ t)
    (hf : f = Loop.enterWaiting ∨ f = Loop.enterNormal ∨ f = Loop.enterTank) :
    (f (q'.advance t) eps).1 = shadow X Y k (f (q.advance t) eps).1 ∧ SamePlan s (f (q.advance t) eps).1 := by
  subst hq
  have hlen : q.onToday + (if q.pumpOn then t - q.now else 0) - t ≤ q.onToday - q.now := by
    split <;> omega
  rcases hf with rfl | rfl | rfl
  all_goals
    refine ⟨?_, hk.trans ⟨rfl, rfl, rfl, ?_, hlen, rfl, rfl, rfl⟩⟩
    · simp only [shadow, Loop.enterWaiting, Loop.enterNormal, Loop.enterTank, Loop.advance, Int.add_right_comm]
      rfl
    · dsimp only [Loop.enterWaiting, Loop.enterNormal, Loop.enterTank, Loop.advance]
      omega

/-- what follows a polled phase that is over is one of the three `on_enter_…`, entered from the state with the counters moved on -/
theorem next_shadow (X Y : Int) (k : Bool) {s p : Loop} {t eps : Int} (he : 0 ≤ eps) (hk : SamePlan s p) (ht : p.now ≤ t)
    (hph : p.phase = .waiting ∨ p.phase = .normal ∨ p.phase = .tank) :
    (shadow X Y k p).next eps t = shadow X Y k (p.next eps t) ∧ SamePlan s (p.next eps t) := by
  rcases hph with hp | hp | hp
  · rw [Loop.next_waiting eps t hp, Loop.next_waiting (p := shadow X Y k p) eps t hp]
    exact after_enter X Y k Loop.enterNormal he rfl hk ht (.inr (.inl rfl))
  · rw [Loop.next_normal eps t hp, Loop.next_normal (p := shadow X Y k p) eps t hp]
    exact after_enter X Y k Loop.enterTank he rfl hk ht (.inr (.inr rfl))
  · rw [Loop.next_tank eps t hp, Loop.next_tank (p := shadow X Y k p) eps t hp]
    exact after_enter X Y k Loop.enterWaiting he rfl hk ht (.inl rfl)

/-- A tick that is handled before the reset (`eco_compute` never looks at it) treats the day bookkeeping as a black box: it
commutes with the shadow, and the real state stays under the same plan. -/
theorem tick_before_reset (X Y : Int) (k : Bool) (s : Loop) {eps j0 j1 : Int} (j2 : Int) (he : 0 ≤ eps) (hj0 : 0 ≤ j0)
    (hj1 : 0 ≤ j1) (hph : s.phase = .compute ∨ s.phase = .waiting ∨ s.phase = .normal ∨ s.phase = .tank)
    (h : s.phase = .compute ∨ ¬ s.eco.nextReset ≤ max s.now s.due + j0) :
    (ecoStep eps (shadow X Y k s) (.tick j0 j1 j2)).1 = shadow X Y k (ecoStep eps s (.tick j0 j1 j2)).1
    ∧ SamePlan s (ecoStep eps s (.tick j0 j1 j2)).1 := by
  have ht : s.now ≤ max s.now s.due + j0 := by omega
  rcases hph with hp | hpol
  · cases htn : s.toNormal
    · rw [step_compute_waiting eps s hp htn, step_compute_waiting eps (shadow X Y k s) hp htn]
      exact after_enter X Y k Loop.enterWaiting he rfl (SamePlan.refl s) ht (.inl rfl)
    · rw [step_compute_normal eps s hp htn, step_compute_normal eps (shadow X Y k s) hp htn]
      exact after_enter X Y k Loop.enterNormal he rfl (SamePlan.refl s) ht (.inr (.inl rfl))
  have hr : ¬ s.eco.nextReset ≤ max s.now s.due + j0 := by
    refine h.resolve_left fun hc => ?_
    rcases hpol with hp | hp | hp <;> rw [hc] at hp <;> cases hp
  have hrs : ¬ (shadow X Y k s).eco.nextReset ≤ max (shadow X Y k s).now (shadow X Y k s).due + j0 := hr
  rw [step_polled eps s j0 j1 j2 hpol, if_neg hr, step_polled eps (shadow X Y k s) j0 j1 j2 hpol, if_neg hrs]
  rw [show (shadow X Y k s).phase = s.phase from rfl, shadow_polled X Y k s eps j0 _ 1 hr]
  -- `p`, the state after `eco_mode.update`; what follows it reads `p.eco` and `p.phase` only
  have hk := samePlan_polled eps (pollF s.phase) 1 hj0 hr
  have hpp : (polled eps s j0 (pollF s.phase) 1).phase = s.phase := polled_phase ..
  generalize polled eps s j0 (pollF s.phase) 1 = p at hk hpp ⊢
  show (if p.phaseOver = true then _ else _) = _ ∧ _
  split
  · exact next_shadow X Y k he hk (Int.le_add_of_nonneg_right hj1) (hpp ▸ hpol)
  · exact ⟨rfl, hk⟩

theorem reset_days (eps : Int) (s : Loop) (j0 j1 j2 : Int)
    (hph : s.phase = .waiting ∨ s.phase = .normal ∨ s.phase = .tank)
    (hr : s.eco.nextReset ≤ max s.now s.due + j0)
    (hn : max s.now s.due + j0 + j1 + j2 < s.eco.nextReset + DAY) :
    (ecoStep eps s (.tick j0 j1 j2)).1.days = recAt eps s (max s.now s.due + j0) (pollF s.phase) 1 :: s.days := by
  rw [step_polled eps s j0 j1 j2 hph, if_pos hr, polled_reset eps s j0 _ 1 hr]
  unfold Loop.reloadEco
  rw [enterCompute_noreset eps _ hn]
  rfl

section
variable {eps per delay : Int}

/-- the invariants of the tick-only proofs hold for the state without its finished days (the records of earlier
heating days are not `DayClosed`, so `DayInv` cannot hold for the state itself after a heating day) -/
structure Good (eps per delay : Int) (s : Loop) : Prop where
  hi : Inv eps (withDays [] s)
  hd : DayInv eps per delay (withDays [] s)

def TickDayOK (eps per delay : Int) (r : DayRec) : Prop :=
  r.plain = true ∧ (r.full = true →
    min delay DAY - slackLo per eps ≤ r.on ∧ r.on ≤ min delay DAY + slackHi per eps)

theorem good_run (hst : Static eps per delay) {s : Loop} {evs : List Ev}
    (h : Good eps per delay s) (hall : ∀ e ∈ evs, TickOK eps e) :
    Good eps per delay (ecoFinal eps s evs)
    ∧ ∃ N, (ecoFinal eps s evs).days = N ++ s.days ∧ ∀ r ∈ N, TickDayOK eps per delay r := by
  have hr := DRel.of_run eps s evs
  obtain ⟨hi', hd'⟩ := day_run hst h.hi h.hd hall
  refine ⟨⟨?_, ?_⟩, (ecoFinal eps (withDays [] s) evs).days, hr.days, fun r hrm => ?_⟩
  · rw [hr.clr]
    exact inv_clr hi'
  · rw [hr.clr]
    exact dayInv_clr hd'
  · have hcl := hd'.hdays r hrm
    exact ⟨hcl.1, fun hf => day_bounds hst (hi'.common.hdays r hrm) hcl hf⟩

/-- A poll of a polled eco phase that sees the reset less than `poll + eps` after the reset instant, then `reload`,
`reloaded`, `eco_compute`: the tick invariants hold for the new day, whatever the state of the finished day was. -/
theorem reset_good (hst : Static eps per delay) {t : Loop} {j0 j1 j2 : Int} (hok : TickOK eps (.tick j0 j1 j2))
    (hph : t.phase = .waiting ∨ t.phase = .normal ∨ t.phase = .tank)
    (hper : t.eco.period = per) (hdel : t.eco.filtration.delay = delay) (hpd : t.eco.periodDuration = divNearest delay per)
    (hr : t.eco.nextReset ≤ max t.now t.due + j0)
    (hlt : max t.now t.due + j0 < t.eco.nextReset + EcoConfig.pollDelayUs + eps) :
    Good eps per delay (ecoStep eps t (.tick j0 j1 j2)).1 := by
  have heps := hst.heps
  have heps5 := hst.heps5
  have hdl := hst.hdel
  have hpoll := cfg_poll
  have hDAY : DAY = 86400000000 := rfl
  have hHOUR : HOUR = 3600000000 := rfl
  have hU : US = 1000000 := rfl
  rw [step_polled eps t j0 j1 j2 hph, if_pos hr]
  generalize pollF t.phase = f
  -- the days finished so far, the one just pushed included, are set aside: nothing is claimed about them
  have hrel := (DRel.start (polled eps t j0 f 1).days (polled eps t j0 f 1)).reloadEco eps j1 j2
  rw [withDays_self] at hrel
  rw [polled_reset eps t j0 f 1 hr] at hrel ⊢
  refine ⟨hrel.clr ▸ inv_clr ?_, hrel.clr ▸ dayInv_clr ?_⟩
  · refine reload_inv ⟨heps, by omega, ?_, ?_, rfl, rfl, rfl, rfl, fun _ hx => absurd hx List.not_mem_nil⟩ hok.late1 hok.late2
    · show 0 ≤ t.eco.filtration.delay
      omega
    · show max t.now t.due + j0 + 2 * eps < t.eco.nextReset + DAY
      omega
  · refine reload_day hst hok.late1 hok.late2 hper hdel hpd rfl rfl rfl ?_ ?_
      (fun _ hx => absurd hx List.not_mem_nil)
    · show t.eco.nextReset + DAY - DAY ≤ max t.now t.due + j0
      omega
    · show max t.now t.due + j0 < t.eco.nextReset + DAY - DAY + EcoConfig.pollDelayUs + eps
      omega

/-- A tick-only run from a state with `P`, where `P` is kept by every tick handled before the reset (`eco_compute` never
looks at the reset) and the poll that sees the reset establishes `Q`: either `P` still holds at the end, or the run splits
at that poll. -/
theorem run_to_reset {eps : Int} (P Q : Loop → Prop)
    (htick : ∀ s j0 j1 j2, P s → TickOK eps (.tick j0 j1 j2) →
      (s.phase = .compute ∨ ¬ s.eco.nextReset ≤ max s.now s.due + j0) → P (ecoStep eps s (.tick j0 j1 j2)).1)
    (hreset : ∀ s j0 j1 j2, P s → TickOK eps (.tick j0 j1 j2) →
      s.phase ≠ .compute → s.eco.nextReset ≤ max s.now s.due + j0 → Q (ecoStep eps s (.tick j0 j1 j2)).1)
    {evs : List Ev} : ∀ s : Loop, P s → (∀ e ∈ evs, TickOK eps e) →
      P (ecoFinal eps s evs) ∨ ∃ a b, evs = a ++ b ∧ Q (ecoFinal eps s a) := by
  induction evs with
  | nil => intro s h _; exact Or.inl h
  | cons e es ih =>
    intro s h hall
    have he := hall e (List.mem_cons_self ..)
    cases e with
    | heat dt => exact he.elim
    | heatEnd dt => exact he.elim
    | tick j0 j1 j2 =>
      by_cases hnr : s.phase = .compute ∨ ¬ s.eco.nextReset ≤ max s.now s.due + j0
      · rcases ih _ (htick s j0 j1 j2 h he hnr) (fun x hx => hall x (List.mem_cons_of_mem _ hx)) with hP | ⟨a, b, hab, hQ⟩
        · exact Or.inl hP
        · exact Or.inr ⟨.tick j0 j1 j2 :: a, b, by rw [hab]; rfl, hQ⟩
      · exact Or.inr ⟨[.tick j0 j1 j2], es, rfl,
          hreset s j0 j1 j2 h he (fun hc => hnr (Or.inl hc)) (Decidable.not_not.mp fun hx => hnr (Or.inr hx))⟩

theorem polled_of_inv (s : Loop) (h : Inv eps s) (hc : s.phase ≠ .compute) :
    s.phase = .waiting ∨ s.phase = .normal ∨ s.phase = .tank :=
  (not_heating_of_inv s h).resolve_left hc

/-- Between the `eco_compute` that follows a heating interlude and the poll that sees the reset — in a whole day or
not, with the quota exceeded or not: the tick invariants hold for the shadow that is NOT a whole day (they say nothing
about the accounting of the day then, but all about timers and plans).  `days0`, `fl`: finished days and `full` at `heat`. -/
structure Tail (eps per delay : Int) (days0 : List DayRec) (fl : Bool) (s : Loop) : Prop where
  hi : Inv eps (shadow 0 0 false s)
  hd : DayInv eps per delay (shadow 0 0 false s)
  hdays : s.days = days0
  hplain : s.gPlain = false
  hfull : s.full = fl

section
variable {days0 : List DayRec} {fl : Bool} {s : Loop} {j0 j1 j2 : Int}

theorem tail_tick (hst : Static eps per delay) (h : Tail eps per delay days0 fl s) (hok : TickOK eps (.tick j0 j1 j2))
    (hnr : s.phase = .compute ∨ ¬ s.eco.nextReset ≤ max s.now s.due + j0) :
    Tail eps per delay days0 fl (ecoStep eps s (.tick j0 j1 j2)).1 := by
  obtain ⟨e, kd, kf, kp, -⟩ := tick_before_reset 0 0 false s j2 hst.heps hok.late0.1 hok.late1.1
    (not_heating_of_inv (shadow 0 0 false s) h.hi) hnr
  exact {
    hi := e ▸ step_inv h.hi hok
    hd := e ▸ day_step h.hi h.hd hst hok
    hdays := kd.trans h.hdays, hplain := kp.trans h.hplain, hfull := kf.trans h.hfull }

theorem tail_reset (hst : Static eps per delay) (h : Tail eps per delay days0 fl s) (hok : TickOK eps (.tick j0 j1 j2))
    (hc : s.phase ≠ .compute) (hr : s.eco.nextReset ≤ max s.now s.due + j0) :
    Good eps per delay (ecoStep eps s (.tick j0 j1 j2)).1
    ∧ (ecoStep eps s (.tick j0 j1 j2)).1.days = recAt eps s (max s.now s.due + j0) (pollF s.phase) 1 :: days0 := by
  have hph : s.phase = .waiting ∨ s.phase = .normal ∨ s.phase = .tank := polled_of_inv (shadow 0 0 false s) h.hi hc
  have hlt : max s.now s.due + j0 < s.eco.nextReset + EcoConfig.pollDelayUs + eps := (h.hi.reset_time hst.late hok.late0 hph).2
  have hpoll := cfg_poll
  have hDAY : DAY = 86400000000 := rfl
  have heps5 := hst.heps5
  have hj1 := hok.late1
  have hj2 := hok.late2
  refine ⟨reset_good hst hok hph h.hd.hper h.hd.hdel h.hd.hpd hr hlt, ?_⟩
  rw [reset_days eps s j0 j1 j2 hph hr (by omega), h.hdays]

end

theorem shadow_enterCompute (X Y : Int) (k : Bool) (eps : Int) (x : Loop) (h : x.now < x.eco.nextReset) :
    ((shadow X Y k x).enterCompute eps).1 = shadow X Y k (x.enterCompute eps).1 := by
  rw [enterCompute_noreset eps x h, enterCompute_noreset eps (shadow X Y k x) h]
  simp only [shadow, Int.add_right_comm]
  rfl

structure HeatReady (per delay : Int) (s : Loop) : Prop where
  hper : s.eco.period = per
  hdel : s.eco.filtration.delay = delay
  hpd : s.eco.periodDuration = divNearest delay per
  h0 : 0 ≤ s.eco.filtration.duration

theorem Good.ready {s : Loop} (h : Good eps per delay s) : HeatReady per delay s :=
  ⟨h.hd.hper, h.hd.hdel, h.hd.hpd, h.hd.h0⟩

theorem Tail.ready {D : List DayRec} {fl : Bool} {s : Loop} (h : Tail eps per delay D fl s) : HeatReady per delay s :=
  ⟨h.hd.hper, h.hd.hdel, h.hd.hpd, h.hd.h0⟩

/-! From here on `x` is the state in which `on_enter_eco_compute` runs when the delay after a complete interlude expires, before the
reset (`HeatDone`, Proofs/EcoInterlude.lean), and `(x.enterCompute eps).1` the `eco_compute` state in which the interlude ends. -/

section
variable {NR th dh oh gU0 : Int} {fl : Bool} {days0 : List DayRec} {x : Loop}

theorem tail_start (hst : Static eps per delay) (h : HeatDone eps per delay NR th dh oh gU0 fl days0 x)
    (hnr : x.now < x.eco.nextReset) (h0 : 0 ≤ dh) :
    Tail eps per delay days0 fl (x.enterCompute eps).1 := by
  have hU : US = 1000000 := rfl
  have hHOUR : HOUR = 3600000000 := rfl
  have hdl := hst.hdel
  have heps5 := hst.heps5
  -- the shadow is not a whole day: nothing is claimed about its accounting
  have hnf : ∀ {P : Prop}, (shadow 0 0 false x).full = true → P := fun hf => Bool.noConfusion (show false = true from hf)
  have hdelay : 0 ≤ x.eco.filtration.delay := by rw [h.hdel]; omega
  have hp := enterCompute_inv (s := shadow 0 0 false x)
    ⟨hst.heps, by omega, hdelay, hnr, rfl, hnf, hnf, hnf, fun _ hr => nomatch hr⟩
  have hd := enterCompute_dayInv (x := shadow 0 0 false x) hst hnr h.hper h.hdel h.hpd (Int.le_trans h0 h.hge) hnf
    (fun _ hr => nomatch hr)
  rw [shadow_enterCompute _ _ _ eps x hnr] at hp hd
  rw [enterCompute_noreset eps x hnr] at hp hd ⊢
  exact ⟨hp, hd, h.hdays, h.hplain, h.hfull⟩

end

/-- The state `s` between the `eco_compute` state `c` in which an interlude of a whole day ended and the reset poll.  The tick
invariant holds for the shadow that is a whole day, with the pump-on time that `c` found unaccounted taken off (`Y`) and the
allowance `gU` restarted like `gJ` (`X`): it accounts for the plan made at `c`. -/
structure PostHeat (eps : Int) (c s : Loop) : Prop where
  hq : Inv eps (shadow (c.gJ - c.gU) (c.eco.filtration.duration - c.onToday) true s)
  hk : SamePlan c s

section
variable {c s : Loop} {j0 j1 j2 : Int}

theorem postHeat_tick (heps : 0 ≤ eps) (h : PostHeat eps c s) (hok : TickOK eps (.tick j0 j1 j2))
    (hnr : s.phase = .compute ∨ ¬ s.eco.nextReset ≤ max s.now s.due + j0) :
    PostHeat eps c (ecoStep eps s (.tick j0 j1 j2)).1 := by
  obtain ⟨e, hk'⟩ := tick_before_reset (c.gJ - c.gU) (c.eco.filtration.duration - c.onToday) true s j2 heps
    hok.late0.1 hok.late1.1 (not_heating_of_inv (shadow _ _ true s) h.hq) hnr
  exact ⟨e ▸ step_inv h.hq hok, h.hk.trans hk'⟩

theorem postHeat_reset {days0 : List DayRec} (hst : Static eps per delay) (hT : Tail eps per delay days0 true s)
    (h : PostHeat eps c s) (hok : TickOK eps (.tick j0 j1 j2)) (hc : s.phase ≠ .compute)
    (hr : s.eco.nextReset ≤ max s.now s.due + j0) {r : DayRec} (hrec : recAt eps s (max s.now s.due + j0) (pollF s.phase) 1 = r) :
    min delay (c.gDc + c.gRc) - slackPlan per eps + (c.onToday - c.eco.filtration.duration) ≤ r.on
    ∧ r.on ≤ delay + (c.onToday - c.eco.filtration.duration)
        + (EcoConfig.pollDelayUs + EcoConfig.computeDelayUs + 6 * (per * eps) + 10 * eps)
    ∧ r.on ≤ c.onToday + (c.eco.nextReset - c.now) + EcoConfig.computeDelayUs + EcoConfig.pollDelayUs + 2 * eps := by
  obtain ⟨hq, -, -, -, kUJ, klen, kDc, kRc, kNR⟩ := h
  have hph : s.phase = .waiting ∨ s.phase = .normal ∨ s.phase = .tank := polled_of_inv (shadow 0 0 false s) hT.hi hc
  have hpoll := cfg_poll
  have hcd := cfg_cd
  have hDAY : DAY = 86400000000 := rfl
  have heps5 := hst.heps5
  have heps := hst.heps
  have hj1 := hok.late1
  have hj2 := hok.late2
  obtain ⟨hdue, hlt⟩ : s.due ≤ s.now + EcoConfig.pollDelayUs
      ∧ max s.now s.due + j0 < s.eco.nextReset + EcoConfig.pollDelayUs + eps := hT.hi.reset_time hst.late hok.late0 hph
  have hnext : s.now < s.eco.nextReset + EcoConfig.computeDelayUs + eps := hT.hi.common.hnext
  have hn : max s.now s.due + j0 + j1 + j2 < s.eco.nextReset + DAY := by omega
  -- the record of the shadow that is a whole day is right, by the tick theorem
  have hi := step_inv hq hok
  obtain ⟨o1, o2, o3, o4⟩ := hi.common.hdays _
    (by rw [reset_days eps (shadow _ _ true s) j0 j1 j2 hph hr hn]; exact List.mem_cons_self ..) hT.hfull rfl
  have hJ := (hT.hd.allowances heps hph).1
  have hsl := slackOf_le_plan heps hT.hd.hN hJ
  have hdel : s.eco.filtration.delay = delay := hT.hd.hdel
  subst hrec
  simp only [recAt, shadow] at o1 o2 o3 o4 hJ hsl ⊢
  rw [kDc, kRc, hdel] at o1
  rw [hdel] at o2
  generalize s.eco.filtration.duration + s.eco.filtration.gain (max s.now s.due + j0) (pollF s.phase) 1 = dur at o1 o2 o3 o4
  cases hpu : s.pumpOn <;> simp only [hpu, if_true, if_false, Bool.false_eq_true] at o3 o4 ⊢ <;>
    exact ⟨by omega, by omega, by omega⟩

end

section
variable {NR th dh oh gU0 : Int} {fl : Bool} {days0 : List DayRec} {x : Loop}

/-- With the quota not yet exceeded by more than a poll: the shadow starts with nothing unaccounted and no allowance used. -/
theorem postHeat_start (hst : Static eps per delay) (h : HeatDone eps per delay NR th dh oh gU0 fl days0 x)
    (hnr : x.now < x.eco.nextReset) (hub : x.eco.filtration.duration ≤ delay + EcoConfig.pollDelayUs + eps) :
    PostHeat eps (x.enterCompute eps).1 (x.enterCompute eps).1 := by
  have hU : US = 1000000 := rfl
  have hHOUR : HOUR = 3600000000 := rfl
  have hdl := hst.hdel
  have heps5 := hst.heps5
  have hdelay : 0 ≤ x.eco.filtration.delay := by rw [h.hdel]; omega
  have hq := enterCompute_inv (s := shadow (- x.gU) (x.eco.filtration.duration - x.onToday) true x)
    ⟨hst.heps, by omega, hdelay, hnr, rfl,
      fun _ => by show x.eco.filtration.duration ≤ x.onToday + (x.eco.filtration.duration - x.onToday); omega,
      fun _ => by
        show x.onToday + (x.eco.filtration.duration - x.onToday) ≤ x.eco.filtration.duration + (x.gU + - x.gU)
        omega,
      fun _ => by show x.eco.filtration.duration ≤ x.eco.filtration.delay + EcoConfig.pollDelayUs + eps; rw [h.hdel]; exact hub,
      fun _ hr => nomatch hr⟩
  rw [shadow_enterCompute _ _ _ eps x hnr] at hq
  refine ⟨?_, SamePlan.refl _⟩
  rw [enterCompute_noreset eps x hnr] at hq ⊢
  have eX : EcoConfig.computeDelayUs + eps - (x.gU + (EcoConfig.computeDelayUs + eps)) = - x.gU := by omega
  show Inv eps (shadow (EcoConfig.computeDelayUs + eps - (x.gU + (EcoConfig.computeDelayUs + eps)))
    (x.eco.filtration.duration - x.onToday) true _)
  rw [eX]
  exact hq

/-- eco_waiting after the `eco_compute` state `c` in which an interlude ended with the quota used up: the pump is stopped and stays
so -/
structure Late (eps : Int) (c s : Loop) : Prop where
  hphase : s.phase = .waiting
  hpump : s.pumpOn = false
  hel : s.eco.filtration.delay ≤ s.eco.filtration.duration
  hon : c.onToday ≤ s.onToday ∧ s.onToday ≤ c.onToday + EcoConfig.computeDelayUs + eps

theorem late_enter (h : HeatDone eps per delay NR th dh oh gU0 fl days0 x) (hnr : x.now < x.eco.nextReset)
    (hl : delay ≤ x.eco.filtration.duration) {j0 j1 j2 : Int} (hok : TickOK eps (.tick j0 j1 j2)) :
    Late eps (x.enterCompute eps).1 (ecoStep eps (x.enterCompute eps).1 (.tick j0 j1 j2)).1 := by
  have hj0 := hok.late0
  have hcd := cfg_cd
  have hoff := compute_late hnr (by rw [h.hdel]; exact hl)
  have htn : (x.enterCompute eps).1.toNormal = false := by
    rw [enterCompute_noreset eps x hnr]
    simp only [hoff, decide_true, Bool.not_true, Bool.false_and]
  rw [step_compute_waiting eps _ (by rw [enterCompute_noreset eps x hnr]) htn, enterCompute_noreset eps x hnr]
  refine ⟨rfl, rfl, by show x.eco.filtration.delay ≤ _; rw [h.hdel]; exact hl, ?_⟩
  simp only [Loop.enterWaiting, Loop.advance, h.hpump, if_true]
  omega

end

theorem late_tick {c s : Loop} {j0 j1 j2 : Int} (h : Late eps c s) (hr : ¬ s.eco.nextReset ≤ max s.now s.due + j0) :
    Late eps c (ecoStep eps s (.tick j0 j1 j2)).1 := by
  have hp := h.hphase
  have hu := polled_noreset eps s j0 0 1 hr
  rw [Timer.gain_zero, Int.add_zero, h.hpump, if_neg Bool.false_ne_true, Int.add_zero] at hu
  have he : (polled eps s j0 0 1).eco.elapsedOff = false := by
    rw [hu]
    simp only [EcoMode.elapsedOff, Timer.elapsed, decide_eq_true h.hel, Bool.not_true, Bool.and_false]
  rw [step_polled eps s j0 j1 j2 (Or.inl hp), pollF_waiting hp, if_neg hr, Loop.phaseOver_waiting ((polled_phase ..).trans hp), he,
    if_neg Bool.false_ne_true, hu]
  exact { h with hpump := rfl }

/-- What the `eco_compute` state `c` in which the LAST interlude of a whole day ends (`NR` = the reset instant) determines
about the pump-on time of the day, whatever happened earlier that day.  `U = c.onToday - c` accounted duration is the pump-on
time not accounted so far.  Quota not exceeded by more than a poll at `c`: the plan made at `c` is carried out,
`min daily (c accounted + time left) - slackPlan + U ≤ on ≤ daily + U + 15 s + (6 period + 10) eps`, and never more than
`c.onToday` + the time left + 15 s + 2 eps.  Quota used up at `c`: the pump stops after the compute delay. -/
def LastBounds (eps per delay : Int) (c : Loop) (NR : Int) (r : DayRec) : Prop :=
  (c.eco.filtration.duration ≤ delay + EcoConfig.pollDelayUs + eps →
      min delay (c.eco.filtration.duration + (NR - c.now)) - slackPlan per eps + (c.onToday - c.eco.filtration.duration) ≤ r.on
      ∧ r.on ≤ delay + (c.onToday - c.eco.filtration.duration)
          + (EcoConfig.pollDelayUs + EcoConfig.computeDelayUs + 6 * (per * eps) + 10 * eps)
      ∧ r.on ≤ c.onToday + (NR - c.now) + EcoConfig.computeDelayUs + EcoConfig.pollDelayUs + 2 * eps)
  ∧ (delay ≤ c.eco.filtration.duration → c.onToday ≤ r.on ∧ r.on ≤ c.onToday + EcoConfig.computeDelayUs + eps)

/-- Ticks after a complete interlude that ended in the `eco_compute` state `c`.  Either the day of the interlude is still running, or
the ticks split at the poll that sees the reset: the state is `Good` again and the record of the day has been pushed, within
`LastBounds` if the day is a whole day.  The two regimes of `LastBounds` are two invariants carried side by side. -/
theorem after_interlude (hst : Static eps per delay) {NR th dh oh gU0 : Int} {fl : Bool} {days0 : List DayRec} {x : Loop}
    (h : HeatDone eps per delay NR th dh oh gU0 fl days0 x) (hnr : x.now < x.eco.nextReset) (h0 : 0 ≤ dh)
    {post : List Ev} (hpost : ∀ e ∈ post, TickOK eps e) {c : Loop} (hc : (x.enterCompute eps).1 = c) :
    (Tail eps per delay days0 fl (ecoFinal eps c post)
      ∧ (c.eco.filtration.duration ≤ delay + EcoConfig.pollDelayUs + eps → PostHeat eps c (ecoFinal eps c post)))
    ∨ ∃ a b, post = a ++ b ∧ Good eps per delay (ecoFinal eps c a)
        ∧ ∃ r, (ecoFinal eps c a).days = r :: days0 ∧ r.plain = false ∧ r.full = fl
            ∧ (fl = true → LastBounds eps per delay c NR r) := by
  subst hc
  have hT := tail_start hst h hnr h0
  have hE := postHeat_start hst h hnr
  have hL := fun hl {j0 j1 j2} => late_enter (j0 := j0) (j1 := j1) (j2 := j2) h hnr hl
  have hcp : (x.enterCompute eps).1.phase = .compute := by rw [enterCompute_noreset eps x hnr]
  have hdur : x.eco.filtration.duration = (x.enterCompute eps).1.eco.filtration.duration := by rw [enterCompute_noreset eps x hnr]
  -- the plan made at `c` in the terms of `LastBounds`
  have hplan : (x.enterCompute eps).1.gDc = (x.enterCompute eps).1.eco.filtration.duration
      ∧ (x.enterCompute eps).1.gRc = NR - (x.enterCompute eps).1.now ∧ (x.enterCompute eps).1.eco.nextReset = NR := by
    have := h.hNR
    rw [enterCompute_noreset eps x hnr]
    dsimp only [EcoMode.remainingTime]
    omega
  rw [hdur] at hE hL
  generalize (x.enterCompute eps).1 = c at *
  refine (run_to_reset
    (fun t => Tail eps per delay days0 fl t ∧ (c.eco.filtration.duration ≤ delay + EcoConfig.pollDelayUs + eps → PostHeat eps c t)
      ∧ (delay ≤ c.eco.filtration.duration → t = c ∨ Late eps c t))
    (fun t => Good eps per delay t
      ∧ ∃ r, t.days = r :: days0 ∧ r.plain = false ∧ r.full = fl ∧ (fl = true → LastBounds eps per delay c NR r))
    ?_ ?_ c ⟨hT, hE, fun _ => Or.inl rfl⟩ hpost).imp_left fun hP => ⟨hP.1, hP.2.1⟩
  · intro t j0 j1 j2 ⟨hT, hE, hL'⟩ hok hn
    refine ⟨tail_tick hst hT hok hn, fun hub => postHeat_tick hst.heps (hE hub) hok hn, fun hl => Or.inr ?_⟩
    rcases hL' hl with rfl | hQ
    · exact hL hl hok
    · exact late_tick hQ (hn.resolve_left (by rw [hQ.hphase]; exact Phase.noConfusion))
  · intro t j0 j1 j2 ⟨hT, hE, hL'⟩ hok hc hr
    obtain ⟨hG, hd⟩ := tail_reset hst hT hok hc hr
    refine ⟨hG, _, hd, hT.hplain, hT.hfull, fun hf => ⟨fun hub => ?_, fun hl => ?_⟩⟩
    · subst hf
      obtain ⟨b1, b2, b3⟩ := postHeat_reset hst hT (hE hub) hok hc hr rfl
      rw [hplan.1, hplan.2.1] at b1
      rw [hplan.2.2] at b3
      exact ⟨b1, b2, b3⟩
    · rcases hL' hl with rfl | hQ
      · exact absurd hcp hc
      · simp only [recAt, hQ.hpump, Bool.false_eq_true, if_false, Int.add_zero]
        exact hQ.hon

end

end Poupool.Eco
