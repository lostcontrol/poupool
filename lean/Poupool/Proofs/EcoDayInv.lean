/-
  Day-level invariant of the closed loop along `tick`-only runs: closed forms for the ghost allowances recorded by
  the model (`gN ≤ period`, `gCyc ≤ gN + 1`, `gJ`, `gU` as functions of the number of completed cycles) and for the
  plan of a day that starts at a reset (`gDc = 0`, `DAY - poll - 3 eps ≤ gRc ≤ DAY`).  Layered on top of `Inv`
  (Proofs/EcoLoop.lean): `Inv eps s → DayInv … s → DayInv … (ecoStep eps s tick).1`, by the same equations
  (Proofs/EcoStep.lean).  The slacks in closed form (`slackPlan`, `slackLo`, `slackHi`) and the bounds of a whole day.
-/
import Poupool.Proofs.EcoLoopStep
import Poupool.Proofs.EcoDays

namespace Poupool.Eco
open Poupool.Generated

/-- while the quota is not reached the number of completed cycles is at most the period count of the plan -/
theorem cyc_le_N {N P cyc credit X D Rc : Int} (hN : 1 ≤ N) (hP : N < 2 * P)
    (hNP : Rc ≤ P ∨ 2 * D - N ≤ 2 * (N * P)) (hC : credit = cyc * P) (hX : credit ≤ X) (hXD : X < D) (hXR : X < Rc) :
    cyc ≤ N := by
  by_cases hc : cyc ≤ N
  · exact hc
  · exfalso
    have hP0 : 0 ≤ P := by omega
    have h1 : (N + 1) * P ≤ cyc * P := Int.mul_le_mul_of_nonneg_right (by omega) hP0
    have h2 : (N + 1) * P = N * P + P := by rw [Int.add_mul, Int.one_mul]
    have h3 : 0 ≤ N * P := Int.mul_nonneg (by omega) hP0
    rcases hNP with h | h <;> omega

theorem mul_eps_le {a b eps : Int} (h : a ≤ b) (he : 0 ≤ eps) : a * eps ≤ b * eps :=
  Int.mul_le_mul_of_nonneg_right h he

/-- phase entries since the compute, beyond three per completed cycle -/
def kJ : Phase → Int | .waiting => 1 | .normal => 2 | .tank => 3 | _ => 0
/-- `eps`-units of the uncounted-time allowance `gU`, beyond four per completed cycle -/
def kU : Phase → Int | .waiting => 1 | .normal => 2 | .tank => 4 | _ => 0
def inCycle : Phase → Int | .normal => 1 | .tank => 1 | _ => 0

/-- the ghost values of a finished day bounded by functions of the period count `per`, the daily duration `delay`, the lateness bound `eps` -/
def DayClosed (eps per delay : Int) (r : DayRec) : Prop :=
  r.plain = true ∧ (r.full = true →
    (1 ≤ r.n ∧ r.n ≤ per
     ∧ r.j ≤ EcoConfig.computeDelayUs + 6 * (per * eps) + 9 * eps
     ∧ r.u ≤ EcoConfig.computeDelayUs + 4 * (per * eps) + 8 * eps
     ∧ min delay (DAY - EcoConfig.pollDelayUs - 3 * eps) - slackOf eps r.j r.n ≤ r.lb
     ∧ r.ub = delay + EcoConfig.pollDelayUs + eps
     ∧ r.on ≤ DAY + EcoConfig.pollDelayUs + 3 * eps))

structure DayInv (eps per delay : Int) (s : Loop) : Prop where
  hper : s.eco.period = per
  hdel : s.eco.filtration.delay = delay
  hpd : s.eco.periodDuration = divNearest delay per
  hP : EcoConfig.minOnUs ≤ s.eco.onD + s.eco.tankD
  h0 : 0 ≤ s.eco.filtration.duration
  hidle : s.eco.filtration.duration - s.gDc ≤ s.now - s.gTc
  hN : s.gN ≤ per
  hcyc : s.gCyc + inCycle s.phase ≤ s.gN + 1
  hJ : s.gJ ≤ EcoConfig.computeDelayUs + eps + 6 * (s.gCyc * eps) + 2 * kJ s.phase * eps
  hfull : s.full = true → (s.gDc = 0 ∧ s.gRc ≤ DAY ∧ DAY - EcoConfig.pollDelayUs - 3 * eps ≤ s.gRc
      ∧ s.gU ≤ EcoConfig.computeDelayUs + 3 * eps + 4 * (s.gCyc * eps) + kU s.phase * eps
      ∧ s.onToday ≤ s.now - s.gTc + 2 * eps)
  hdays : ∀ r ∈ s.days, DayClosed eps per delay r

theorem dayInv_clr {eps per delay : Int} {s : Loop} (h : DayInv eps per delay s) : DayInv eps per delay (withDays [] s) :=
  { h with hdays := fun _ hr => nomatch hr }

/-- the settings of the run, as far as the closed forms need them -/
structure Static (eps per delay : Int) : Prop where
  heps : 0 ≤ eps
  heps5 : eps ≤ 600000
  hper1 : 1 ≤ per
  hper2 : per ≤ 10
  hdel : 1 * US ≤ delay

theorem Static.late {eps per delay : Int} (hst : Static eps per delay) : EcoConfig.computeDelayUs + eps ≤ EcoConfig.pollDelayUs := by
  have := hst.heps5
  have := cfg_cd
  have := cfg_poll
  omega

/-- `on_enter_eco_compute` before the reset: at the start of eco, after a reload, after a heating interlude. -/
theorem enterCompute_dayInv {eps per delay : Int} (hst : Static eps per delay) {x : Loop} (hnr : x.now < x.eco.nextReset)
    (hper : x.eco.period = per) (hdel : x.eco.filtration.delay = delay) (hpd : x.eco.periodDuration = divNearest delay per)
    (h0 : 0 ≤ x.eco.filtration.duration)
    (hfull : x.full = true → x.eco.filtration.duration = 0 ∧ x.eco.nextReset - x.now ≤ DAY
      ∧ DAY - EcoConfig.pollDelayUs - 3 * eps ≤ x.eco.nextReset - x.now ∧ x.gU ≤ 2 * eps ∧ x.onToday ≤ 2 * eps)
    (hdays : ∀ r ∈ x.days, DayClosed eps per delay r) :
    DayInv eps per delay (x.enterCompute eps).1 := by
  obtain ⟨heps, heps5, hper1, hper2, hdl⟩ := hst
  have hU : US = 1000000 := rfl
  have hN : x.eco.remainingPeriods ≤ per := by
    unfold EcoMode.remainingPeriods EcoMode.remainingDuration
    rw [hdel, hpd]
    exact periods_le_settings hdl hper1 hper2 (by omega)
  have hN1 : 1 ≤ x.eco.remainingPeriods := by unfold EcoMode.remainingPeriods; omega
  rw [enterCompute_noreset eps x hnr]
  exact {
    hper, hdel, hpd, h0, hN, hdays
    hP := compute_P x.eco x.now
    hidle := by dsimp only; omega
    hcyc := by dsimp only [inCycle]; omega
    hJ := by dsimp only [kJ]; omega
    hfull := fun hf => by
      obtain ⟨f1, f2, f3, f4, f5⟩ := hfull hf
      dsimp only [kU, EcoMode.remainingTime]
      omega }

theorem reload_day {eps per delay : Int} {u : Loop} {j1 j2 : Int} (hst : Static eps per delay)
    (hj1 : 0 ≤ j1 ∧ j1 ≤ eps) (hj2 : 0 ≤ j2 ∧ j2 ≤ eps)
    (hper : u.eco.period = per) (hdel : u.eco.filtration.delay = delay) (hpd : u.eco.periodDuration = divNearest delay per)
    (hdur : u.eco.filtration.duration = 0) (hon : u.onToday = 0) (hu : u.gU = 0)
    (hnr2 : u.eco.nextReset - DAY ≤ u.now) (hnr3 : u.now < u.eco.nextReset - DAY + EcoConfig.pollDelayUs + eps)
    (hdays : ∀ r ∈ u.days, DayClosed eps per delay r) :
    DayInv eps per delay (u.reloadEco eps j1 j2).1 := by
  have heps5 := hst.heps5
  have hpoll := cfg_poll
  have hDAY : DAY = 86400000000 := rfl
  refine enterCompute_dayInv hst ?_ hper hdel hpd (Int.le_of_eq hdur.symm) (fun _ => ⟨hdur, ?_, ?_, ?_, ?_⟩) hdays
  · show u.now + j1 + j2 < u.eco.nextReset
    omega
  · show u.eco.nextReset - (u.now + j1 + j2) ≤ DAY
    omega
  · show _ ≤ u.eco.nextReset - (u.now + j1 + j2)
    omega
  · show u.gU + 2 * eps ≤ 2 * eps
    omega
  · show u.onToday + (if u.pumpOn then u.now + j1 - u.now else 0) + (if u.pumpOn then u.now + j1 + j2 - (u.now + j1) else 0) ≤ 2 * eps
    rw [hon]; split <;> omega

/-- The allowances in closed form, in a polled phase.  Phase entries since the compute: at most `3 * per + 4` for the lateness
`gJ`, `4 * per + 5` units of uncounted time for `gU`. -/
theorem DayInv.allowances {eps per delay : Int} {s : Loop} (hd : DayInv eps per delay s) (heps : 0 ≤ eps)
    (hk : s.phase = .waiting ∨ s.phase = .normal ∨ s.phase = .tank) :
    s.gJ ≤ EcoConfig.computeDelayUs + 6 * (per * eps) + 9 * eps
    ∧ (s.full = true → s.gU ≤ EcoConfig.computeDelayUs + 4 * (per * eps) + 8 * eps) := by
  have dcyc := hd.hcyc
  have dN := hd.hN
  have hent : 3 * s.gCyc + kJ s.phase ≤ 3 * per + 4 ∧ 4 * s.gCyc + kU s.phase ≤ 4 * per + 5 := by
    rcases hk with hk | hk | hk <;> simp only [hk, kJ, kU, inCycle] at dcyc ⊢ <;> omega
  have hJe := mul_eps_le hent.1 heps
  have hUe := mul_eps_le hent.2 heps
  rw [Int.add_mul, Int.add_mul, Int.mul_assoc, Int.mul_assoc] at hJe hUe
  have dJ := hd.hJ
  rw [Int.mul_assoc] at dJ
  refine ⟨by omega, fun hfull => ?_⟩
  have := (hd.hfull hfull).2.2.2.1
  omega

theorem closed_rec {eps per delay : Int} {s : Loop} (hst : Static eps per delay) (hc : Common eps s) (hd : DayInv eps per delay s)
    (hk : s.phase = .waiting ∨ s.phase = .normal ∨ s.phase = .tank) {t : Int} (fnum fden : Int)
    (ht0 : s.now ≤ t) (ht : t < s.eco.nextReset + EcoConfig.pollDelayUs + eps) :
    DayClosed eps per delay (recAt eps s t fnum fden) := by
  obtain ⟨hJ, hU⟩ := hd.allowances hst.heps hk
  refine ⟨hc.hplain, fun hfull => ?_⟩
  obtain ⟨g1, g2, g3, -, g5⟩ := hd.hfull hfull
  have heps := hst.heps
  have hpoll := cfg_poll
  have hRc := hc.hRc
  have hNr := hc.hNr
  dsimp only [recAt]
  rw [hd.hdel, g1]
  exact ⟨hc.hN, hd.hN, hJ, hU hfull, by omega, rfl, by split <;> omega⟩

theorem day_reset {eps per delay : Int} {s : Loop} (h : Inv eps s) (hd : DayInv eps per delay s) (hst : Static eps per delay)
    (hk : s.phase = .waiting ∨ s.phase = .normal ∨ s.phase = .tank) {j0 j1 j2 fnum fden : Int}
    (hok : TickOK eps (.tick j0 j1 j2)) (hr : s.eco.nextReset ≤ max s.now s.due + j0) :
    DayInv eps per delay ((polled eps s j0 fnum fden).reloadEco eps j1 j2).1 := by
  have hj0 := hok.late0
  have ht := (h.reset_time hst.late hj0 hk).2
  rw [polled_reset eps s j0 fnum fden hr]
  refine reload_day hst hok.late1 hok.late2 hd.hper hd.hdel hd.hpd rfl rfl rfl ?_ ?_ ?_
  · show s.eco.nextReset + DAY - DAY ≤ max s.now s.due + j0
    omega
  · show max s.now s.due + j0 < s.eco.nextReset + DAY - DAY + EcoConfig.pollDelayUs + eps
    omega
  · exact List.forall_mem_cons.mpr ⟨closed_rec hst h.common hd hk fnum fden (by omega) ht, hd.hdays⟩

theorem day_stay {eps per delay : Int} {s : Loop} (hd : DayInv eps per delay s) {j0 fnum fden : Int}
    (hr : ¬ s.eco.nextReset ≤ max s.now s.due + j0)
    (hg : 0 ≤ s.eco.filtration.gain (max s.now s.due + j0) fnum fden
      ∧ s.eco.filtration.gain (max s.now s.due + j0) fnum fden ≤ max s.now s.due + j0 - s.now) :
    DayInv eps per delay { polled eps s j0 fnum fden with due := (polled eps s j0 fnum fden).now + EcoConfig.pollDelayUs } := by
  have := hd.h0
  have := hd.hidle
  rw [polled_noreset eps s j0 fnum fden hr]
  exact { hd with
    h0 := by dsimp only; omega
    hidle := by dsimp only; omega
    hfull := fun hf => by
      obtain ⟨f1, f2, f3, f4, f5⟩ := hd.hfull hf
      refine ⟨f1, f2, f3, f4, ?_⟩
      dsimp only; split <;> omega }

theorem Inv.gain_le {eps : Int} {s : Loop} (h : Inv eps s) (hk : s.phase = .waiting ∨ s.phase = .normal ∨ s.phase = .tank)
    {j0 : Int} (hj0 : 0 ≤ j0 ∧ j0 ≤ eps) :
    0 ≤ s.eco.filtration.gain (max s.now s.due + j0) (pollF s.phase) 1
      ∧ s.eco.filtration.gain (max s.now s.due + j0) (pollF s.phase) 1 ≤ max s.now s.due + j0 - s.now := by
  rcases hk with hp | hk2
  · rw [pollF_waiting hp, Timer.gain_zero]
    omega
  · obtain ⟨d, -, hd2, hd0, -, hdt, -, -⟩ := (h.polled (Or.inr hk2)).1.poll hj0
    rw [pollF_running hk2, hd2]
    exact ⟨hd0, hdt⟩

theorem day_tick_polled {eps per delay : Int} {s : Loop} (h : Inv eps s) (hd : DayInv eps per delay s) (hst : Static eps per delay)
    (hk : s.phase = .waiting ∨ s.phase = .normal ∨ s.phase = .tank) {j0 j1 j2 : Int}
    (hok : TickOK eps (.tick j0 j1 j2)) :
    DayInv eps per delay (ecoStep eps s (.tick j0 j1 j2)).1 := by
  have hj0 := hok.late0
  have hj1 := hok.late1
  rw [step_polled eps s j0 j1 j2 hk]
  by_cases hr : s.eco.nextReset ≤ max s.now s.due + j0
  · rw [if_pos hr]
    exact day_reset h hd hst hk hok hr
  rw [if_neg hr]
  obtain ⟨hg0, hg1⟩ := h.gain_le hk hj0
  cases he : (polled eps s j0 (pollF s.phase) 1).phaseOver
  · rw [if_neg Bool.false_ne_true]
    exact day_stay hd hr ⟨hg0, hg1⟩
  rw [if_pos rfl]
  -- the phase is over; the closed forms count one more phase entry
  have hu := polled_noreset eps s j0 (pollF s.phase) 1 hr
  have seps := hst.heps
  have d0 := hd.h0
  have didle := hd.hidle
  have dN := hd.hN
  have dcyc := hd.hcyc
  have dJ := hd.hJ
  have dfull := hd.hfull
  have hsucc : (s.gCyc + 1) * eps = s.gCyc * eps + eps := by rw [Int.add_mul, Int.one_mul]
  rcases hk with hp | hp | hp <;> simp only [hp, kJ, kU, inCycle] at dcyc dJ dfull
  · -- eco_waiting -> eco_normal; the quota is not reached, so at most `gN` cycles are completed
    have hpp : (polled eps s j0 (pollF s.phase) 1).phase = .waiting := (polled_phase ..).trans hp
    rw [Loop.phaseOver_waiting hpp] at he
    rw [Loop.next_waiting _ _ hpp]
    rw [hu] at he ⊢
    simp only [EcoMode.elapsedOff_iff] at he
    have hc := h.common
    have hb := ((phaseInv_waiting hp).mp h.hphase).hb
    have hmin := cfg_minOn
    have dP := hd.hP
    have sper2 := hst.hper2
    have hcn : s.gCyc ≤ s.gN := by
      rcases hb with hb | ⟨-, -, hb3⟩
      · exact absurd (Int.le_trans hb (Int.le_add_of_nonneg_right hg0)) he.2
      · have := hc.hD; have := hc.hRc; have := hc.hNr; have := hc.hTc
        exact cyc_le_N hc.hN (by omega) hc.hNP hc.hC hb3 (by omega) (by omega)
    dsimp only [Loop.enterNormal, Loop.advance, EcoMode.clear, EcoMode.setCurrent, Timer.clear, Timer.setDelay]
    exact { hd with
      h0 := by dsimp only; omega
      hidle := by dsimp only; omega
      hcyc := by dsimp only [inCycle]; omega
      hJ := by dsimp only [kJ]; omega
      hfull := fun hf => by
        obtain ⟨f1, f2, f3, f4, f5⟩ := dfull hf
        refine ⟨f1, f2, f3, ?_, ?_⟩
        · dsimp only [kU]; omega
        · dsimp only; split <;> omega }
  · -- eco_normal -> eco_tank
    rw [Loop.next_normal _ _ ((polled_phase ..).trans hp), hu]
    dsimp only [Loop.enterTank, Loop.advance, EcoMode.clear, EcoMode.setCurrent, Timer.clear, Timer.setDelay]
    exact { hd with
      h0 := by dsimp only; omega
      hidle := by dsimp only; omega
      hcyc := by dsimp only [inCycle]; omega
      hJ := by dsimp only [kJ]; omega
      hfull := fun hf => by
        obtain ⟨f1, f2, f3, f4, f5⟩ := dfull hf
        refine ⟨f1, f2, f3, ?_, ?_⟩
        · dsimp only [kU]; omega
        · dsimp only; split <;> omega }
  · -- eco_tank -> eco_waiting
    rw [Loop.next_tank _ _ ((polled_phase ..).trans hp), hu]
    dsimp only [Loop.enterWaiting, Loop.advance, EcoMode.clear, EcoMode.setCurrent, Timer.clear, Timer.setDelay]
    exact { hd with
      h0 := by dsimp only; omega
      hidle := by dsimp only; omega
      hcyc := by dsimp only [inCycle]; omega
      hJ := by dsimp only [kJ]; omega
      hfull := fun hf => by
        obtain ⟨f1, f2, f3, f4, f5⟩ := dfull hf
        refine ⟨f1, f2, f3, ?_, ?_⟩
        · dsimp only [kU]; omega
        · dsimp only; split <;> omega }

theorem day_tick_compute {eps per delay : Int} {s : Loop} (h : Inv eps s) (hd : DayInv eps per delay s) (hst : Static eps per delay)
    (hp : s.phase = .compute) {j0 j1 j2 : Int} (hok : TickOK eps (.tick j0 j1 j2)) :
    DayInv eps per delay (ecoStep eps s (.tick j0 j1 j2)).1 := by
  have hj0 := hok.late0
  have hcd := cfg_cd
  have seps := hst.heps
  obtain ⟨hnow, hdue, hdur, hJ, -, -, -, hCyc, -, -⟩ := (phaseInv_compute hp).mp h.hphase
  have didle := hd.hidle
  have dcyc := hd.hcyc
  have dJ := hd.hJ
  have dfull := hd.hfull
  simp only [hp, kJ, kU, inCycle] at dcyc dJ dfull
  have hN := h.common.hN
  cases htn : s.toNormal
  · rw [step_compute_waiting eps s hp htn]
    dsimp only [Loop.enterWaiting, Loop.advance, EcoMode.clear, EcoMode.setCurrent, Timer.clear, Timer.setDelay]
    exact { hd with
      hidle := by dsimp only; omega
      hcyc := by dsimp only [inCycle]; omega
      hJ := by dsimp only [kJ]; omega
      hfull := fun hf => by
        obtain ⟨f1, f2, f3, f4, f5⟩ := dfull hf
        refine ⟨f1, f2, f3, ?_, ?_⟩
        · dsimp only [kU]; omega
        · dsimp only; split <;> omega }
  · rw [step_compute_normal eps s hp htn]
    dsimp only [Loop.enterNormal, Loop.advance, EcoMode.clear, EcoMode.setCurrent, Timer.clear, Timer.setDelay]
    exact { hd with
      hidle := by dsimp only; omega
      hcyc := by dsimp only [inCycle]; omega
      hJ := by dsimp only [kJ]; omega
      hfull := fun hf => by
        obtain ⟨f1, f2, f3, f4, f5⟩ := dfull hf
        refine ⟨f1, f2, f3, ?_, ?_⟩
        · dsimp only [kU]; omega
        · dsimp only; split <;> omega }

theorem day_step {eps per delay : Int} {s : Loop} (h : Inv eps s) (hd : DayInv eps per delay s) (hst : Static eps per delay)
    {e : Ev} (he : TickOK eps e) : DayInv eps per delay (ecoStep eps s e).1 := by
  cases e with
  | tick j0 j1 j2 =>
    rcases not_heating_of_inv s h with hp | hk
    · exact day_tick_compute h hd hst hp he
    · exact day_tick_polled h hd hst hk he
  | heat dt => exact he.elim
  | heatEnd dt => exact he.elim

theorem day_run {eps per delay : Int} (hst : Static eps per delay) {evs : List Ev} :
    ∀ {s : Loop}, Inv eps s → DayInv eps per delay s → (∀ e ∈ evs, TickOK eps e) →
      Inv eps (ecoFinal eps s evs) ∧ DayInv eps per delay (ecoFinal eps s evs) := by
  induction evs with
  | nil => intro s h hd _; exact ⟨h, hd⟩
  | cons e es ih =>
    intro s h hd hall
    have he := hall e (List.mem_cons_self ..)
    exact ih (step_inv h he) (day_step h hd hst he) (fun x hx => hall x (List.mem_cons_of_mem _ hx))

theorem day_start {eps : Int} {p : Params} (hst : Static eps p.period (p.dailyS * US)) (hel : 0 ≤ p.elapsedS)
    (hs : p.start < nextResetAt p.start p.resetHour) : DayInv eps p.period (p.dailyS * US) (Loop.start eps p).1 := by
  have e := p.ecoMode_eq
  refine enterCompute_dayInv hst (p.start_lt hs) (congrArg EcoMode.period e) (congrArg (·.filtration.delay) e)
    (congrArg EcoMode.periodDuration e) ?_ (fun h => Bool.noConfusion h) (fun _ h => nomatch h)
  show 0 ≤ p.ecoMode.filtration.duration
  rw [e]
  exact Int.mul_nonneg hel (by decide)

/-- Tick-only runs from the instant the pool enters eco, for settings the dispatcher lets through. -/
theorem start_day_run {eps : Int} {p : Params} {evs : List Ev} (he : 0 ≤ eps) (he2 : eps ≤ 600000)
    (hd : 1 ≤ p.dailyS) (hp1 : 1 ≤ p.period) (hp2 : p.period ≤ 10) (hel : 0 ≤ p.elapsedS)
    (hs : p.start < nextResetAt p.start p.resetHour) (hall : ∀ e ∈ evs, TickOK eps e) :
    Static eps p.period (p.dailyS * US) ∧ Inv eps (ecoFinal eps (Loop.start eps p).1 evs)
      ∧ DayInv eps p.period (p.dailyS * US) (ecoFinal eps (Loop.start eps p).1 evs) := by
  have hU : US = 1000000 := rfl
  have hH : HOUR = 3600000000 := rfl
  have hst : Static eps p.period (p.dailyS * US) := ⟨he, he2, hp1, hp2, by rw [hU]; omega⟩
  exact ⟨hst, day_run hst (start_inv he (by omega) (by omega) hs) (day_start hst hel hs) hall⟩

/-- slack of one plan: compute delay, one poll of overshoot per pause, rounding, lateness (`slackLo` without the
reset-poll term `10 s + 3 eps`) -/
def slackPlan (per eps : Int) : Int := 5000000 + per * 10000001 + 7 * (per * eps) + 9 * eps

theorem slackOf_le_plan {eps per j n : Int} (heps : 0 ≤ eps) (hn : n ≤ per)
    (hj : j ≤ EcoConfig.computeDelayUs + 6 * (per * eps) + 9 * eps) : slackOf eps j n ≤ slackPlan per eps := by
  have hpoll := cfg_poll
  have hcd := cfg_cd
  have h1 : n * (EcoConfig.pollDelayUs + eps) ≤ per * (EcoConfig.pollDelayUs + eps) := Int.mul_le_mul_of_nonneg_right hn (by omega)
  rw [Int.mul_add per] at h1
  unfold slackOf slackPlan
  rw [hpoll] at h1 ⊢
  omega

theorem Static.per_eps {eps per delay : Int} (hst : Static eps per delay) : 0 ≤ per * eps ∧ per * eps ≤ 10 * eps :=
  ⟨Int.mul_nonneg (by have := hst.hper1; omega) hst.heps, mul_eps_le hst.hper2 hst.heps⟩

theorem Static.slackPlan_lt {eps per delay : Int} (hst : Static eps per delay) : slackPlan per eps < 180 * US := by
  have hU : US = 1000000 := rfl
  have := hst.per_eps
  have := hst.heps5
  have := hst.hper2
  unfold slackPlan
  omega

/-- slack of the lower bound of a whole tick-only day: compute delay + the reset poll (15 s), one poll of overshoot per
pause (`per * 10 s`), the rounding of the plan (`per` µs), handler lateness (`(7 * per + 12) * eps`) -/
def slackLo (per eps : Int) : Int := 15000000 + per * 10000001 + 7 * (per * eps) + 12 * eps
/-- slack of the upper bound: one poll of overshoot of the quota, the compute delay, `(4 * per + 9) * eps` -/
def slackHi (per eps : Int) : Int := 15000000 + 4 * (per * eps) + 9 * eps

theorem slack_le_180 {per eps : Int} (he : 0 ≤ eps) (he2 : eps ≤ 600000) (hp1 : 1 ≤ per) (hp2 : per ≤ 10) :
    slackHi per eps ≤ slackLo per eps ∧ slackLo per eps ≤ 164200010 ∧ slackLo per eps < 180 * US
    ∧ (eps ≤ 500000 → slackLo per eps ≤ 156000010) := by
  have hU : US = 1000000 := rfl
  have h1 : per * eps ≤ 10 * eps := mul_eps_le hp2 he
  have h0 : 0 ≤ per * eps := Int.mul_nonneg (by omega) he
  unfold slackLo slackHi
  refine ⟨?_, ?_, ?_, ?_⟩ <;> omega

theorem day_bounds {eps per delay : Int} {r : DayRec} (hst : Static eps per delay) (hok : DayOK r) (hcl : DayClosed eps per delay r)
    (hfull : r.full = true) :
    min delay DAY - slackLo per eps ≤ r.on ∧ r.on ≤ min delay DAY + slackHi per eps := by
  obtain ⟨hpl, hcl⟩ := hcl
  obtain ⟨o1, o2, o3, o4⟩ := hok hfull hpl
  obtain ⟨c1, c2, c3, c4, c5, c6, c7⟩ := hcl hfull
  have hsl := slackOf_le_plan hst.heps c2 c3
  have hpoll := cfg_poll
  have hcd := cfg_cd
  have hDAY : DAY = 86400000000 := rfl
  have heps := hst.heps
  have h0 := hst.per_eps.1
  unfold slackLo slackHi
  unfold slackPlan at hsl
  constructor <;> omega

end Poupool.Eco
