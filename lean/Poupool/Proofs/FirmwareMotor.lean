/-
Helper lemmas for property C19, motor part: pins follow `m_previous_direction`, `stop`, stall window.
-/
import Poupool.Proofs.Firmware

namespace Poupool.Firmware
open Poupool.FirmwareConst

/-! ### the serial part leaves the motor outputs alone -/

theorem mp_emergencyStop (s : St) : mpOf (emergencyStop s) = mpOf s := rfl

theorem mp_dispatchCore (s : St) : mpOf (dispatchCore s) = mpOf s :=
  (keeps_ops (findCmd (cstr s) commands) s).2

theorem mp_serialStep (s : St) (b : Nat) : mpOf (serialStep s b) = mpOf s := by
  have hd (t : St) : mpOf (dispatch t) = mpOf t := by
    unfold dispatch; split <;> exact mp_dispatchCore _
  have hs (t : St) (v : Nat) : mpOf (bufStore t v) = mpOf t := by
    unfold bufStore bufWrite; split <;> rfl
  simp only [serialStep_eq, apply_ite mpOf, hd, hs, ite_self]

/-! ### the pins always are what `process_direction` last wrote for `m_previous_direction` -/

theorem coverIsr_dir (s : St) : (coverIsr s).dir = s.dir ∨ (coverIsr s).dir = .stop := by
  obtain ⟨p, d, e, hd, _⟩ := coverIsr_cases s
  rw [e]; exact hd

theorem delayWithPulses_dir (s : St) : (delayWithPulses s).dir = s.dir ∨ (delayWithPulses s).dir = .stop :=
  List.foldlRecOn (motive := fun a : St => a.dir = s.dir ∨ a.dir = .stop) (List.range s.dpulses)
    (delayPulse s.clk s.dpulses) (b := { s with dpulses := 0 }) (.inl rfl)
    fun a ha _ _ => (coverIsr_dir { a with clk := _ }).elim (fun h => h ▸ ha) .inr

theorem delayWithPulses_zero (s : St) (h : s.dpulses = 0) :
    delayWithPulses s = { s with dpulses := 0, clk := s.clk + relayDelayMs } := by
  unfold delayWithPulses
  rw [h]
  rfl

def PinsOK (m : MP) : Prop :=
  match m.prevDir with
  | .opn => m.pinClose = true ∧ m.pinOpen = false
  | .cls => m.pinOpen = true ∧ m.pinClose = false
  | .stop => m.pinOpen = false ∧ m.pinClose = false

def Motor (s : St) : Prop := PinsOK (mpOf s)

theorem Motor.of_mp {a b : St} (hb : Motor b) (h : mpOf a = mpOf b) : Motor a := by
  unfold Motor; rw [h]; exact hb

theorem Motor.low_iff {s : St} (h : Motor s) : (s.pinOpen = false ∧ s.pinClose = false) ↔ s.prevDir = .stop := by
  cases hd : s.prevDir <;> simp_all [Motor, PinsOK, mpOf]

/-- whatever interrupts fire inside the delay; rests on `prevDirRereadsVolatile = false` -/
theorem processDirection_motor {s : St} (now : Nat) (h : Motor s) :
    Motor (processDirection s now) ∧ (processDirection s now).prevDir = s.dir := by
  by_cases hc : s.dir = s.prevDir
  · rw [processDirection, if_neg (not_not_intro hc)]; exact ⟨h, hc.symm⟩
  · rw [processDirection, if_pos hc]
    cases hdir : s.dir with
    | opn =>
      exact ⟨⟨congrArg MP.pinClose (keeps_delayWithPulses { s with dir := .opn, run := .opn, pinClose := true }).2, rfl⟩, rfl⟩
    | cls =>
      exact ⟨⟨congrArg MP.pinOpen (keeps_delayWithPulses { s with dir := .cls, run := .cls, pinOpen := true }).2, rfl⟩, rfl⟩
    | stop => exact ⟨⟨rfl, rfl⟩, rfl⟩

theorem processDirection_dir (s : St) (now : Nat) :
    ((processDirection s now).dir = s.dir ∨ (processDirection s now).dir = .stop) ∧
    (s.dpulses = 0 → (processDirection s now).dir = s.dir) := by
  unfold processDirection
  split
  · split
    · exact ⟨delayWithPulses_dir { s with run := .opn, pinClose := true },
        fun h0 => by rw [delayWithPulses_zero _ (by exact h0)]⟩
    · exact ⟨delayWithPulses_dir { s with run := .cls, pinOpen := true },
        fun h0 => by rw [delayWithPulses_zero _ (by exact h0)]⟩
    · exact ⟨.inl rfl, fun _ => rfl⟩
  · exact ⟨.inl rfl, fun _ => rfl⟩

theorem actions_none (s : St) :
    actions s none = processStop (ensureConsistency (processDirection s s.clk) s.clk) s.clk := rfl

theorem processStop_cases (s : St) (now : Nat) :
    processStop s now = s ∨
    processStop s now = { s with doStop := 0, run := .stop, eePos := s.pos, eeClose := s.close, eeOpen := s.opn } := by
  unfold processStop
  split
  · split
    · exact .inr rfl
    · exact .inl rfl
  · exact .inl rfl

theorem actions_motor (s : St) (btn : Option Btn) (h : Motor s) : Motor (actions s btn) := by
  unfold actions
  refine (processDirection_motor _ ?_).1.of_mp ((keeps_processStop _ _).2.trans (keeps_ensureConsistency _ _).2)
  cases btn with
  | none => exact h
  | some k => exact h.of_mp (keeps_button s k).2

theorem processStop_dir (s : St) (now : Nat) : (processStop s now).dir = s.dir := by
  rcases processStop_cases s now with e | e <;> rw [e]

theorem actions_none_dir_stop (s : St) (h : s.dir = .stop) : (actions s none).dir = .stop := by
  have hd : (processDirection s s.clk).dir = .stop := (processDirection_dir s s.clk).1.elim (·.trans h) id
  rw [actions_none, processStop_dir, ensureConsistency, if_neg (not_not_intro hd)]
  exact hd

theorem actions_stop (s : St) (hm : Motor s) (hs : s.dir = .stop) :
    (actions s none).dir = .stop ∧ (actions s none).pinOpen = false ∧ (actions s none).pinClose = false := by
  obtain ⟨hm', hp⟩ := processDirection_motor s.clk hm
  have e : mpOf (actions s none) = mpOf (processDirection s s.clk) :=
    (keeps_processStop _ _).2.trans (keeps_ensureConsistency _ _).2
  exact ⟨actions_none_dir_stop s hs, (hm'.of_mp e).low_iff.mpr ((congrArg MP.prevDir e).trans (hp.trans hs))⟩

theorem step_motor (s : St) (e : Ev) (h : Motor s) : Motor (step s e) := by
  cases e with
  | byte b => exact actions_motor (serialStep s b) none (h.of_mp (mp_serialStep s b))
  | tick ms => exact actions_motor { s with clk := s.clk + ms } none h
  | btn k => exact actions_motor s (some k) h
  | pulse => exact h.of_mp (keeps_coverIsr s).2
  | wpulse => exact h.of_mp (keeps_waterIsr s).2
  | _ => exact h

theorem run_motor (evs : List Ev) {s : St} (h : Motor s) : Motor (run s evs) :=
  List.foldlRecOn evs step h fun s hs e _ => step_motor s e hs

theorem motor_init (p c o : Int) : Motor (init p c o) := ⟨rfl, rfl⟩

theorem envelopeCheck_eq (s : St) :
    envelopeCheck s = if s.lim = .none ∧ outsideEnvelope s = true then emergencyStop s else s := by
  unfold envelopeCheck
  split <;> simp [*]

theorem absC_lt {x m : Int} (hm : m ≤ 2147483648) (h1 : -m < x) (h2 : x < m) : absC x < m := by
  unfold absC
  split
  · omega
  · rw [wrap32_id (by omega) (by omega)]; omega

/-- the rotation check fails: the first thing printed is the emergency block, whatever the envelope check does next -/
theorem ensureConsistency_stall (s : St) (now : Nat) (hd : s.dir ≠ .stop) (ht : now - s.prevTime > stallWindowMs)
    (hp : absC (wrap32 (s.pos - s.prevPos)) < stallMinPulses) :
    (ensureConsistency s now).dir = .stop ∧ (ensureConsistency s now).nEmergency ≥ s.nEmergency + 1 ∧
    ∃ rest, (ensureConsistency s now).out =
      s.out ++ ((emergencyText ++ crlf) ++ (emergencyTerminator ++ crlf)) ++ rest := by
  unfold ensureConsistency stallCheck
  rw [if_pos hd, if_pos ht, if_pos hp, envelopeCheck_eq]
  split
  · exact ⟨rfl, Nat.le_succ _, (emergencyText ++ crlf) ++ (emergencyTerminator ++ crlf), by
      simp [emergencyStop, emitLn, List.append_assoc]⟩
  · exact ⟨rfl, Nat.le_refl _, [], by simp [emergencyStop, emitLn, List.append_assoc]⟩

theorem ensureConsistency_inside {s : St} {now : Nat} (hl : (ensureConsistency s now).lim = .none)
    (hd : (ensureConsistency s now).dir ≠ .stop) :
    ensureConsistency s now = stallCheck s now ∧ outsideEnvelope (stallCheck s now) = false := by
  unfold ensureConsistency at hl hd ⊢
  by_cases h0 : s.dir ≠ .stop
  · rw [if_pos h0, envelopeCheck_eq] at hl hd ⊢
    by_cases hc : (stallCheck s now).lim = .none ∧ outsideEnvelope (stallCheck s now) = true
    · rw [if_pos hc] at hd; exact absurd rfl hd
    · rw [if_neg hc] at hl ⊢
      exact ⟨rfl, Bool.eq_false_iff.mpr fun h => hc ⟨hl, h⟩⟩
  · rw [if_neg h0] at hd; exact absurd hd h0

def quiet : Ev → Bool
  | .tick _ | .adv _ | .pulse | .wpulse | .query => true
  | _ => false

def pulseCount : List Ev → Int
  | [] => 0
  | .pulse :: r => pulseCount r + 1
  | _ :: r => pulseCount r

/-- the stall window opened at `(t0, p0)` while driving in direction `d` is still open and the position has moved by
at most `n` pulses – or the direction is already STOP -/
def Win (d : Dir) (t0 : Nat) (p0 n : Int) (s : St) : Prop :=
  s.dir = .stop ∨ (s.dir = d ∧ s.prevDir = d ∧ s.prevTime = t0 ∧ s.prevPos = p0 ∧ p0 - n ≤ s.pos ∧ s.pos ≤ p0 + n)

theorem win_mono (d : Dir) (t0 : Nat) (p0 n m : Int) (s : St) (h : Win d t0 p0 n s) (hm : n ≤ m) : Win d t0 p0 m s := by
  rcases h with h | ⟨h1, h2, h3, h4, h5, h6⟩
  · exact Or.inl h
  · exact Or.inr ⟨h1, h2, h3, h4, by omega, by omega⟩

theorem win_coverIsr {d : Dir} {t0 : Nat} {p0 n : Int} {s : St} (h : Win d t0 p0 n s)
    (hp0 : -1073741824 ≤ p0 ∧ p0 ≤ 1073741824) (hn : n < 10) : Win d t0 p0 (n + 1) (coverIsr s) := by
  obtain ⟨p, d', e, hd, hp⟩ := coverIsr_cases s
  rw [e]
  rcases h with h | ⟨h1, h2, h3, h4, h5, h6⟩
  · exact .inl (hd.elim (·.trans h) id)
  · rw [wrap32_id (by omega) (by omega), wrap32_id (by omega) (by omega)] at hp
    rcases hd with hd | hd
    · exact .inr ⟨hd.trans h1, h2, h3, h4, by show p0 - (n + 1) ≤ p; omega, by show p ≤ p0 + (n + 1); omega⟩
    · exact .inl hd

theorem win_actions {d : Dir} {t0 : Nat} {p0 n : Int} (s : St) (h : Win d t0 p0 n s)
    (hd : d ≠ .stop) (hn : n < 10) :
    Win d t0 p0 n (actions s none) ∧ (s.clk - t0 > stallWindowMs → (actions s none).dir = .stop) := by
  rcases h with h | ⟨h1, h2, h3, h4, h5, h6⟩
  · exact ⟨.inl (actions_none_dir_stop s h), fun _ => actions_none_dir_stop s h⟩
  · have e : actions s none = processStop (ensureConsistency s s.clk) s.clk := by
      rw [actions_none, processDirection, if_neg (by simp [h1, h2])]
    have hw {t : St} (ht : Win d t0 p0 n t) : Win d t0 p0 n (processStop t s.clk) := by
      rcases processStop_cases t s.clk with e | e <;> rw [e] <;> exact ht
    rw [e, processStop_dir]
    by_cases ht : s.clk - s.prevTime > stallWindowMs
    · have := (ensureConsistency_stall s s.clk (h1 ▸ hd) ht (by
        rw [wrap32_id (by omega) (by omega)]
        exact absC_lt (m := 10) (by decide) (by omega) (by omega))).1
      exact ⟨hw (.inl this), fun _ => this⟩
    · refine ⟨hw ?_, fun hc => absurd (h3 ▸ hc) ht⟩
      unfold ensureConsistency stallCheck
      rw [if_pos (h1 ▸ hd), if_neg ht, envelopeCheck_eq]
      split
      · exact .inl rfl
      · exact .inr ⟨h1, h2, h3, h4, h5, h6⟩

theorem pulseCount_nonneg (evs : List Ev) : 0 ≤ pulseCount evs := by
  induction evs with
  | nil => exact Int.le_refl 0
  | cons e es ih => cases e <;> simp only [pulseCount] <;> omega

theorem win_run {d : Dir} {t0 : Nat} {p0 m : Int} (hd : d ≠ .stop) (hp0 : -1073741824 ≤ p0 ∧ p0 ≤ 1073741824)
    (hm : m < 10) (evs : List Ev) : ∀ (s : St) (n : Int), Win d t0 p0 n s → (∀ e ∈ evs, quiet e = true) →
      n + pulseCount evs ≤ m → Win d t0 p0 m (run s evs) := by
  induction evs with
  | nil => intro s n h _ hle; exact win_mono d t0 p0 n m s h (by simpa [pulseCount] using hle)
  | cons e es ih =>
    intro s n h hq hle
    have hq' : ∀ e ∈ es, quiet e = true := fun x hx => hq x (List.mem_cons_of_mem _ hx)
    have hqe := hq e (List.mem_cons_self ..)
    have hnn := pulseCount_nonneg es
    show Win d t0 p0 m (run (step s e) es)
    cases e with
    | byte _ | btn _ | delayPulses _ => exact nomatch hqe
    | tick ms =>
      have hn : n + pulseCount es ≤ m := hle
      exact ih _ n (win_actions { s with clk := s.clk + ms } h hd (by omega)).1 hq' hn
    | adv ms => exact ih { s with clk := s.clk + ms } n h hq' hle
    | pulse =>
      have hn : n + (pulseCount es + 1) ≤ m := hle
      exact ih (coverIsr s) (n + 1) (win_coverIsr h hp0 (by omega)) hq' (by omega)
    | wpulse =>
      refine ih (waterIsr s) n ?_ hq' hle
      unfold waterIsr
      split <;> exact h
    | query => exact ih s n h hq' hle

end Poupool.Firmware
