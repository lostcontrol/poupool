/-
Helper lemmas for the sensor reader model (Model/Reader.lean): a bounded window is "the last `maxlen` of everything
pushed"; one `doRead` acts on window `i` as a function of reading `i` only; hence the window of sensor `i` after any run
is the last `maxlen` valid readings of sensor `i`.
-/
import Poupool.Model.Reader

namespace Poupool.Reader

theorem lastN_length (m : Nat) (l : List Int) : (lastN m l).length = min m l.length := by
  simp only [lastN, List.length_drop]; omega

theorem push_eq_lastN (m : Nat) (l : List Int) (v : Int) : push m l v = lastN m (l ++ [v]) := rfl

theorem lastN_lastN_append (m : Nat) (l : List Int) (v : Int) : lastN m (lastN m l ++ [v]) = lastN m (l ++ [v]) := by
  simp only [lastN, List.drop_append, List.drop_drop, List.length_append, List.length_drop, List.length_singleton]
  -- both sides drop the same number of elements from `l` and from `[v]`
  congr 2 <;> omega

theorem foldl_push_lastN (m : Nat) (vs : List Int) (l : List Int) :
    vs.foldl (push m) (lastN m l) = lastN m (l ++ vs) := by
  induction vs generalizing l with
  | nil => simp
  | cons v vs ih =>
      rw [List.foldl_cons, push_eq_lastN, lastN_lastN_append, ih, List.append_assoc, List.singleton_append]

theorem lastN_append_singleton_getLast? (m : Nat) (hm : 0 < m) (l : List Int) (x : Int) :
    (lastN m (l ++ [x])).getLast? = some x := by
  rw [lastN, List.getLast?_drop, if_neg (by simp; omega), List.getLast?_concat]

theorem lastN_eq_nil_iff (m : Nat) (hm : 0 < m) (l : List Int) : lastN m l = [] ↔ l = [] := by
  rw [lastN, List.drop_eq_nil_iff, ← List.length_eq_zero_iff]
  omega

theorem doRead_length (m : Nat) (ws : List (List Int)) (r : List (Option Int)) : (doRead m ws r).length = ws.length := by
  induction ws generalizing r <;> cases r <;> simp [doRead, *]

theorem doRead_getD (m : Nat) (ws : List (List Int)) (r : List (Option Int)) (i : Nat) (hi : i < ws.length) :
    (doRead m ws r).getD i [] = (match r.getD i none with | some x => push m (ws.getD i []) x | none => ws.getD i []) := by
  induction ws generalizing r i with
  | nil => simp at hi
  | cons w ws ih =>
      cases r with
      | nil => simp [doRead]
      | cons v vs =>
          cases i with
          | zero => cases v <;> simp [doRead]
          | succ i => exact ih vs i (by simpa using hi)

theorem valid_nil (i : Nat) : valid i [] = [] := rfl

theorem valid_cons (i : Nat) (r : List (Option Int)) (rs : List (List (Option Int))) :
    valid i (r :: rs) = (match r.getD i none with | some x => x :: valid i rs | none => valid i rs) := by
  unfold valid
  rw [List.filterMap_cons]
  cases r.getD i none <;> rfl

theorem foldl_doRead_length (m : Nat) (reads : List (List (Option Int))) (ws : List (List Int)) :
    (reads.foldl (doRead m) ws).length = ws.length := by
  induction reads generalizing ws with
  | nil => rfl
  | cons r rs ih => simp only [List.foldl_cons, ih, doRead_length]

theorem foldl_doRead_getD (m : Nat) (reads : List (List (Option Int))) (ws : List (List Int)) (i : Nat) (hi : i < ws.length) :
    (reads.foldl (doRead m) ws).getD i [] = (valid i reads).foldl (push m) (ws.getD i []) := by
  induction reads generalizing ws with
  | nil => simp [valid]
  | cons r rs ih =>
      simp only [List.foldl_cons]
      rw [ih (doRead m ws r) (by rw [doRead_length]; exact hi), doRead_getD m ws r i hi, valid_cons]
      cases r.getD i none <;> rfl

theorem run_length (m n : Nat) (reads : List (List (Option Int))) : (run m n reads).length = n := by
  simp [run, foldl_doRead_length, init]

theorem valid_append (i : Nat) (a b : List (List (Option Int))) : valid i (a ++ b) = valid i a ++ valid i b := by
  simp [valid, List.filterMap_append]

theorem getD_set_ne (r : List (Option Int)) (i j : Nat) (v : Option Int) (h : j ≠ i) : (r.set j v).getD i none = r.getD i none := by
  simp [List.getD_eq_getElem?_getD, List.getElem?_set_ne h]

theorem valid_setReading (i j k : Nat) (v : Option Int) (reads : List (List (Option Int))) (h : j ≠ i) :
    valid i (setReading k j v reads) = valid i reads := by
  induction reads generalizing k with
  | nil => simp [setReading]
  | cons r rs ih =>
      cases k with
      | zero => rw [setReading, valid_cons, valid_cons, getD_set_ne r i j v h]
      | succ k => rw [setReading, valid_cons, valid_cons, ih k]

theorem valid_congr (i : Nat) (a b : List (List (Option Int))) (hl : a.length = b.length)
    (h : ∀ k, (a.getD k []).getD i none = (b.getD k []).getD i none) : valid i a = valid i b := by
  induction a generalizing b with
  | nil =>
      cases b with
      | nil => rfl
      | cons _ _ => simp at hl
  | cons r rs ih =>
      cases b with
      | nil => simp at hl
      | cons r' rs' =>
          rw [valid_cons, valid_cons, show r.getD i none = r'.getD i none from h 0,
            ih rs' (by simpa using hl) fun k => h (k + 1)]

theorem sum_ge_of_forall_ge (w : List Int) (lo : Int) (h : ∀ v ∈ w, lo ≤ v) : lo * (w.length : Int) ≤ w.sum := by
  induction w with
  | nil => simp
  | cons a w ih =>
      rw [List.forall_mem_cons] at h
      have := ih h.2
      simp only [List.length_cons, List.sum_cons, Int.natCast_succ, Int.mul_add, Int.mul_one]
      omega

theorem sum_le_of_forall_le (w : List Int) (hi : Int) (h : ∀ v ∈ w, v ≤ hi) : w.sum ≤ hi * (w.length : Int) := by
  induction w with
  | nil => simp
  | cons a w ih =>
      rw [List.forall_mem_cons] at h
      have := ih h.2
      simp only [List.length_cons, List.sum_cons, Int.natCast_succ, Int.mul_add, Int.mul_one]
      omega

theorem mean_eq_none_iff (w : List Int) : mean w = none ↔ w = [] := by
  cases w <;> simp [mean]

theorem mean_eq_some {w : List Int} {s : Int} {k : Nat} (h : mean w = some (s, k)) : s = w.sum ∧ k = w.length ∧ 0 < k := by
  cases w with
  | nil => simp [mean] at h
  | cons a w =>
      simp only [mean, List.isEmpty_cons, Bool.false_eq_true, if_false, Option.some.injEq, Prod.mk.injEq] at h
      obtain ⟨rfl, rfl⟩ := h
      simp

end Poupool.Reader
