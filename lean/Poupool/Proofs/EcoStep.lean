/-
  Equations of the closed loop: what `doUpdate`, `enterCompute` and one event of `ecoStep` do, each stated once, as record
  updates of the state before, so that a fact about an untouched field holds by unfolding.  The tick of the three polled
  phases is one equation (`step_polled`: `eco_mode.update`, then the reload, the next phase or the next poll).  What `compute`
  guarantees about its plan (`compute_plan`), the state in which the pool enters eco.
-/
import Poupool.Proofs.EcoLoop

namespace Poupool.Eco
open Poupool.Generated

section adv
variable (s : Loop) (t : Int)
@[simp] theorem adv_now : (s.advance t).now = t := rfl
@[simp] theorem adv_due : (s.advance t).due = s.due := rfl
@[simp] theorem adv_phase : (s.advance t).phase = s.phase := rfl
@[simp] theorem adv_pump : (s.advance t).pumpOn = s.pumpOn := rfl
@[simp] theorem adv_on : (s.advance t).onToday = s.onToday + (if s.pumpOn then t - s.now else 0) := rfl
@[simp] theorem adv_days : (s.advance t).days = s.days := rfl
@[simp] theorem adv_full : (s.advance t).full = s.full := rfl
@[simp] theorem adv_toN : (s.advance t).toNormal = s.toNormal := rfl
@[simp] theorem adv_eco : (s.advance t).eco = s.eco := rfl
@[simp] theorem adv_gTc : (s.advance t).gTc = s.gTc := rfl
@[simp] theorem adv_gDc : (s.advance t).gDc = s.gDc := rfl
@[simp] theorem adv_gNr : (s.advance t).gNr = s.gNr := rfl
@[simp] theorem adv_gN : (s.advance t).gN = s.gN := rfl
@[simp] theorem adv_gD : (s.advance t).gD = s.gD := rfl
@[simp] theorem adv_gRc : (s.advance t).gRc = s.gRc := rfl
@[simp] theorem adv_gJ : (s.advance t).gJ = s.gJ := rfl
@[simp] theorem adv_gWoff : (s.advance t).gWoff = s.gWoff := rfl
@[simp] theorem adv_gW : (s.advance t).gW = s.gW := rfl
@[simp] theorem adv_gCredit : (s.advance t).gCredit = s.gCredit := rfl
@[simp] theorem adv_gCyc : (s.advance t).gCyc = s.gCyc := rfl
@[simp] theorem adv_gU : (s.advance t).gU = s.gU := rfl
@[simp] theorem adv_gPlain : (s.advance t).gPlain = s.gPlain := rfl
end adv

theorem doUpdate_noreset (s : Loop) (eps fnum fden : Int) (h : ¬ s.eco.nextReset ≤ s.now) :
    (s.doUpdate eps fnum fden).1 =
      { s with
        eco := { s.eco with
          current := { s.eco.current with duration := s.eco.current.duration + s.eco.current.gain s.now 1 1, last := some s.now }
          filtration := { s.eco.filtration with
            duration := s.eco.filtration.duration + s.eco.filtration.gain s.now fnum fden, last := some s.now }
          lastSave := if EcoConfig.saveIntervalUs < s.now - s.eco.lastSave then s.now else s.eco.lastSave }
        saved := if EcoConfig.saveIntervalUs < s.now - s.eco.lastSave
          then s.eco.filtration.duration + s.eco.filtration.gain s.now fnum fden else s.saved } := by
  simp [Loop.doUpdate, EcoMode.update, h, Timer.update_eq]

theorem doUpdate_phase (s : Loop) (eps a b : Int) : (s.doUpdate eps a b).1.phase = s.phase := by
  unfold Loop.doUpdate
  dsimp only
  split <;> rfl

def polled (eps : Int) (s : Loop) (j0 fnum fden : Int) : Loop := ((s.advance (max s.now s.due + j0)).doUpdate eps fnum fden).1

theorem step_compute_waiting (eps : Int) (s : Loop) (hp : s.phase = .compute) (htn : s.toNormal = false) (j0 j1 j2 : Int) :
    (ecoStep eps s (.tick j0 j1 j2)).1 = (Loop.enterWaiting (s.advance (max s.now s.due + j0)) eps).1 := by
  simp only [ecoStep, adv_phase, hp, adv_toN, htn]; rfl

theorem step_compute_normal (eps : Int) (s : Loop) (hp : s.phase = .compute) (htn : s.toNormal = true) (j0 j1 j2 : Int) :
    (ecoStep eps s (.tick j0 j1 j2)).1 = (Loop.enterNormal (s.advance (max s.now s.due + j0)) eps).1 := by
  simp only [ecoStep, adv_phase, hp, adv_toN, htn]; rfl

/-- factor of the poll of a polled eco phase -/
def pollF : Phase → Int | .waiting => 0 | _ => 1

def Loop.phaseOver (p : Loop) : Bool :=
  match p.phase with
  | .waiting => p.eco.elapsedOff
  | .normal => p.eco.elapsedOn && decide (0 < p.eco.tankD)
  | _ => p.eco.elapsedOn

/-- what follows a polled phase that is over; `t` is when the trigger is handled -/
def Loop.next (p : Loop) (eps t : Int) : Loop :=
  match p.phase with
  | .waiting =>
    (Loop.enterNormal (Loop.advance { p with gW := p.gW + 1, gWoff := p.gWoff + (p.eco.offD + EcoConfig.pollDelayUs + eps) } t) eps).1
  | .normal => (Loop.enterTank (p.advance t) eps).1
  | _ =>
    (Loop.enterWaiting (Loop.advance { p with gCyc := p.gCyc + 1, gCredit := p.gCredit + (p.eco.onD + p.eco.tankD) } t) eps).1

theorem polled_phase (eps : Int) (s : Loop) (j0 fnum fden : Int) : (polled eps s j0 fnum fden).phase = s.phase :=
  doUpdate_phase _ _ _ _

theorem step_polled (eps : Int) (s : Loop) (j0 j1 j2 : Int) (hph : s.phase = .waiting ∨ s.phase = .normal ∨ s.phase = .tank) :
    (ecoStep eps s (.tick j0 j1 j2)).1 =
      if s.eco.nextReset ≤ max s.now s.due + j0 then ((polled eps s j0 (pollF s.phase) 1).reloadEco eps j1 j2).1
      else if (polled eps s j0 (pollF s.phase) 1).phaseOver then
        (polled eps s j0 (pollF s.phase) 1).next eps ((polled eps s j0 (pollF s.phase) 1).now + j1)
      else { polled eps s j0 (pollF s.phase) 1 with due := (polled eps s j0 (pollF s.phase) 1).now + EcoConfig.pollDelayUs } := by
  have hr : ∀ f d, ((s.advance (max s.now s.due + j0)).doUpdate eps f d).2.reset = decide (s.eco.nextReset ≤ max s.now s.due + j0) :=
    fun _ _ => rfl
  -- the phase is rewritten on both sides, also where `doUpdate` carries it along, so that `rfl` sees the same records
  rcases hph with hp | hp | hp <;>
    simp only [ecoStep, adv_phase, hp, hr, decide_eq_true_eq, Loop.phaseOver, Loop.next, polled_phase, doUpdate_phase, pollF,
      apply_ite Prod.fst] <;>
    rfl

theorem pollF_waiting {s : Loop} (hp : s.phase = .waiting) : pollF s.phase = 0 := by
  rw [hp]
  rfl

theorem pollF_running {s : Loop} (hk : s.phase = .normal ∨ s.phase = .tank) : pollF s.phase = 1 := by
  rcases hk with hp | hp <;> rw [hp] <;> rfl

section
variable {p : Loop} (eps t : Int)

theorem Loop.phaseOver_waiting (hp : p.phase = .waiting) : p.phaseOver = p.eco.elapsedOff := by
  unfold Loop.phaseOver
  rw [hp]

theorem Loop.phaseOver_normal (hp : p.phase = .normal) : p.phaseOver = (p.eco.elapsedOn && decide (0 < p.eco.tankD)) := by
  unfold Loop.phaseOver
  rw [hp]

theorem Loop.phaseOver_tank (hp : p.phase = .tank) : p.phaseOver = p.eco.elapsedOn := by
  unfold Loop.phaseOver
  rw [hp]

theorem Loop.phaseOver_running (hk : p.phase = .normal ∨ p.phase = .tank) (ht : 0 < p.eco.tankD) : p.phaseOver = p.eco.elapsedOn := by
  rcases hk with hp | hp
  · rw [phaseOver_normal hp, decide_eq_true ht, Bool.and_true]
  · exact phaseOver_tank hp

theorem Loop.next_waiting (hp : p.phase = .waiting) : p.next eps t =
    (Loop.enterNormal (Loop.advance { p with gW := p.gW + 1, gWoff := p.gWoff + (p.eco.offD + EcoConfig.pollDelayUs + eps) } t) eps).1 := by
  unfold Loop.next
  rw [hp]

theorem Loop.next_normal (hp : p.phase = .normal) : p.next eps t = (Loop.enterTank (p.advance t) eps).1 := by
  unfold Loop.next
  rw [hp]

theorem Loop.next_tank (hp : p.phase = .tank) : p.next eps t =
    (Loop.enterWaiting (Loop.advance { p with gCyc := p.gCyc + 1, gCredit := p.gCredit + (p.eco.onD + p.eco.tankD) } t) eps).1 := by
  unfold Loop.next
  rw [hp]

end

theorem polled_noreset (eps : Int) (s : Loop) (j0 fnum fden : Int) (hr : ¬ s.eco.nextReset ≤ max s.now s.due + j0) :
    polled eps s j0 fnum fden =
      { s with
        now := max s.now s.due + j0
        onToday := s.onToday + (if s.pumpOn then max s.now s.due + j0 - s.now else 0)
        eco := { s.eco with
          current := { s.eco.current with
            duration := s.eco.current.duration + s.eco.current.gain (max s.now s.due + j0) 1 1, last := some (max s.now s.due + j0) }
          filtration := { s.eco.filtration with
            duration := s.eco.filtration.duration + s.eco.filtration.gain (max s.now s.due + j0) fnum fden
            last := some (max s.now s.due + j0) }
          lastSave := if EcoConfig.saveIntervalUs < max s.now s.due + j0 - s.eco.lastSave then max s.now s.due + j0 else s.eco.lastSave }
        saved := if EcoConfig.saveIntervalUs < max s.now s.due + j0 - s.eco.lastSave
          then s.eco.filtration.duration + s.eco.filtration.gain (max s.now s.due + j0) fnum fden else s.saved } :=
  doUpdate_noreset (s.advance (max s.now s.due + j0)) eps fnum fden hr

/-- the record pushed by a poll at `t` that sees the reset -/
def recAt (eps : Int) (s : Loop) (t fnum fden : Int) : DayRec :=
  { on := s.onToday + (if s.pumpOn then t - s.now else 0), full := s.full, plain := s.gPlain,
    dur := s.eco.filtration.duration + s.eco.filtration.gain t fnum fden, u := s.gU,
    lb := min s.eco.filtration.delay (s.gDc + s.gRc) - slackOf eps s.gJ s.gN,
    ub := s.eco.filtration.delay + EcoConfig.pollDelayUs + eps, cyc := s.gCyc, n := s.gN, j := s.gJ }

theorem polled_reset (eps : Int) (s : Loop) (j0 fnum fden : Int) (hr : s.eco.nextReset ≤ max s.now s.due + j0) :
    polled eps s j0 fnum fden =
      { s with
        now := max s.now s.due + j0
        eco := { s.eco with
          current := { s.eco.current with
            duration := s.eco.current.duration + s.eco.current.gain (max s.now s.due + j0) 1 1, last := some (max s.now s.due + j0) }
          filtration := { s.eco.filtration with duration := 0, last := none }
          nextReset := s.eco.nextReset + DAY
          lastSave := max s.now s.due + j0 }
        saved := 0
        days := recAt eps s (max s.now s.due + j0) fnum fden :: s.days
        onToday := 0, full := true, gU := 0, gPlain := true } := by
  simp [polled, Loop.doUpdate, EcoMode.update, hr, Timer.update_eq, Timer.reset, Loop.roll, recAt]

theorem onTotal_ge (e : EcoMode) (now : Int) :
    EcoConfig.minOnUs ≤ e.onTotal now
    ∧ min (e.remainingTime now) (divNearest e.remainingDuration e.remainingPeriods) ≤ e.onTotal now := by
  unfold EcoMode.onTotal
  simp only
  split <;> omega

theorem tankOf_ge (e : EcoMode) (now : Int) : EcoConfig.tankMinUs ≤ e.tankOf now := by
  unfold EcoMode.tankOf
  simp only
  split <;> omega

theorem compute_offD (e : EcoMode) (now : Int) :
    (e.compute now).offD = max 0 (divNearest (e.remainingTime now - e.remainingDuration) e.remainingPeriods) := by
  show e.offOf now = _
  unfold EcoMode.offOf
  simp only [cfg_offClamp, Bool.true_and, decide_eq_true_eq]
  split <;> omega

/-- the pool phase is what the tank phase leaves of `onTotal`, and the whole of it when the tank phase is the longer one -/
theorem compute_onD (e : EcoMode) (now : Int) :
    0 < (e.compute now).onD ∧ e.onTotal now ≤ (e.compute now).onD + (e.compute now).tankD := by
  have := (onTotal_ge e now).1
  have := cfg_minOn
  have := tankOf_ge e now
  have := cfg_tankMin
  show 0 < (if e.tankOf now < e.onTotal now then _ else _) ∧ _ ≤ (if e.tankOf now < e.onTotal now then _ else _) + e.tankOf now
  split <;> omega

/-- what a freshly computed plan guarantees (the fields are named like those of `Common` that they establish) -/
structure PlanFacts (e : EcoMode) (now : Int) : Prop where
  hoff : 0 ≤ (e.compute now).offD
  hon : 0 < (e.compute now).onD
  htank : 0 < (e.compute now).tankD
  hNoff : 2 * (e.remainingPeriods * (e.compute now).offD)
    ≤ max 0 (2 * (e.remainingTime now - e.remainingDuration) + e.remainingPeriods)
  hNP : e.remainingTime now ≤ (e.compute now).onD + (e.compute now).tankD
    ∨ 2 * e.remainingDuration - e.remainingPeriods ≤ 2 * (e.remainingPeriods * ((e.compute now).onD + (e.compute now).tankD))
  hN : 1 ≤ e.remainingPeriods

theorem compute_plan (e : EcoMode) (now : Int) : PlanFacts e now := by
  have hn : 1 ≤ e.remainingPeriods := by unfold EcoMode.remainingPeriods; omega
  have hb1 := (divNearest_bounds (e.remainingTime now - e.remainingDuration) e.remainingPeriods (by omega)).1
  have hb2 := (divNearest_bounds e.remainingDuration e.remainingPeriods (by omega)).2
  obtain ⟨hon, hP⟩ := compute_onD e now
  have hot := (onTotal_ge e now).2
  have htank := tankOf_ge e now
  have htk := cfg_tankMin
  refine ⟨?_, hon, ?_, ?_, ?_, hn⟩
  · rw [compute_offD]
    omega
  · show 0 < e.tankOf now
    omega
  · rw [compute_offD]
    generalize divNearest (e.remainingTime now - e.remainingDuration) e.remainingPeriods = q at hb1 ⊢
    rcases Int.le_total q 0 with h | h
    · rw [Int.max_eq_left h, Int.mul_zero]
      omega
    · rw [Int.max_eq_right h]
      omega
  · generalize (e.compute now).onD + (e.compute now).tankD = P at hP ⊢
    by_cases hc : e.remainingTime now ≤ divNearest e.remainingDuration e.remainingPeriods
    · left; omega
    · right
      have : divNearest e.remainingDuration e.remainingPeriods ≤ P := by omega
      have := Int.mul_le_mul_of_nonneg_left this (show 0 ≤ e.remainingPeriods by omega)
      omega

theorem compute_P (e : EcoMode) (now : Int) : EcoConfig.minOnUs ≤ (e.compute now).onD + (e.compute now).tankD :=
  Int.le_trans (onTotal_ge e now).1 (compute_onD e now).2

theorem compute_late {e : EcoMode} {now : Int} (h : now < e.nextReset) (hl : e.filtration.delay ≤ e.filtration.duration) :
    0 < (e.compute now).offD := by
  have hrd : e.remainingDuration = 0 := by
    unfold EcoMode.remainingDuration
    omega
  have hrp : e.remainingPeriods = 1 := by
    unfold EcoMode.remainingPeriods
    rw [hrd, Int.zero_ediv]
    rfl
  rw [compute_offD, hrd, hrp, divNearest_one]
  unfold EcoMode.remainingTime
  omega

theorem enterCompute_now (eps : Int) (x : Loop) : (x.enterCompute eps).1.now = x.now := by
  simp only [Loop.enterCompute, Loop.doUpdate]
  split <;> rfl

theorem enterCompute_noreset (eps : Int) (s : Loop) (h : s.now < s.eco.nextReset) :
    (s.enterCompute eps).1 =
      { s with
        eco := { s.eco with
          filtration := { s.eco.filtration with last := some s.now }
          current := ⟨0, some s.now, 0⟩
          lastSave := if EcoConfig.saveIntervalUs < s.now - s.eco.lastSave then s.now else s.eco.lastSave
          onD := (s.eco.compute s.now).onD, offD := (s.eco.compute s.now).offD, tankD := (s.eco.compute s.now).tankD }
        phase := .compute
        toNormal := !decide (0 < (s.eco.compute s.now).offD) && decide (0 < (s.eco.compute s.now).onD)
        due := s.now + EcoConfig.computeDelayUs
        saved := if EcoConfig.saveIntervalUs < s.now - s.eco.lastSave then s.eco.filtration.duration else s.saved
        gTc := s.now, gDc := s.eco.filtration.duration, gNr := s.eco.nextReset
        gN := s.eco.remainingPeriods, gD := s.eco.remainingDuration, gRc := s.eco.remainingTime s.now
        gJ := EcoConfig.computeDelayUs + eps, gWoff := 0, gW := 0, gCredit := 0, gCyc := 0
        gU := s.gU + (EcoConfig.computeDelayUs + eps) } := by
  have hr : ¬ (Loop.eco { s with eco := s.eco.clear }).nextReset ≤ (Loop.now { s with eco := s.eco.clear }) := Int.not_le.mpr h
  have hg : (Timer.clear s.eco.filtration).gain s.now EcoConfig.factorComputeNum EcoConfig.factorComputeDen = 0 :=
    Timer.gain_none _ _ _ _ rfl
  have hg' : (Timer.setDelay s.eco.current 0).gain s.now 1 1 = 0 := Timer.gain_none _ _ _ _ rfl
  unfold Loop.enterCompute
  simp only [doUpdate_noreset _ _ _ _ hr]
  simp only [EcoMode.clear, hg, hg', Int.add_zero]
  rfl

section start
variable (p : Params)

theorem Params.ecoMode_eq :
    p.ecoMode = { EcoMode.init p.start with
      filtration := ⟨p.elapsedS * US, none, p.dailyS * US⟩, period := p.period, tankNum := p.tankNum, tankDen := p.tankDen
      nextReset := nextResetAt p.start p.resetHour, periodDuration := divNearest (p.dailyS * US) p.period } := by
  simp only [Params.ecoMode, EcoMode.fltDuration_eq cfg_keep]
  rfl

theorem Params.start_lt (hs : p.start < nextResetAt p.start p.resetHour) : p.start < p.ecoMode.nextReset := by
  rw [p.ecoMode_eq]
  exact hs

theorem start_days (eps : Int) (hs : p.start < nextResetAt p.start p.resetHour) : (Loop.start eps p).1.days = [] := by
  simp only [Loop.start]
  rw [enterCompute_noreset eps _ (p.start_lt hs)]

end start

theorem step_heat (eps : Int) (s : Loop) (dt : Int) (hph : s.phase = .waiting ∨ s.phase = .normal) :
    (ecoStep eps s (.heat dt)).1 = { s.advance (s.now + dt) with
      eco := s.eco.clear.clear, phase := .heating, pumpOn := true, due := s.now + dt, gPlain := false } := by
  rcases hph with hp | hp <;> simp only [ecoStep, adv_phase, hp] <;> rfl

theorem step_heatEnd (eps : Int) (s : Loop) (dt : Int) (hp : s.phase = .heating) :
    (ecoStep eps s (.heatEnd dt)).1 = { s.advance (s.now + dt) with
      eco := s.eco.clear, phase := .heatDelay, due := s.now + dt + EcoConfig.heatingDelayToEcoUs } := by
  simp only [ecoStep, adv_phase, hp]
  rfl

theorem step_heating (eps : Int) (s : Loop) (j0 j1 j2 : Int) (hp : s.phase = .heating) :
    (ecoStep eps s (.tick j0 j1 j2)).1 = { polled eps s j0 1 1 with due := (polled eps s j0 1 1).now + EcoConfig.pollDelayUs } := by
  simp only [ecoStep, adv_phase, hp]
  rfl

theorem step_heatDelay (eps : Int) (s : Loop) (j0 j1 j2 : Int) (hp : s.phase = .heatDelay) :
    (ecoStep eps s (.tick j0 j1 j2)).1 = ((s.advance (max s.now s.due + j0)).enterCompute eps).1 := by
  simp only [ecoStep, adv_phase, hp]

end Poupool.Eco
