/-
Helper lemmas for property C19 (cover firmware): what each part of `loop()` leaves alone, the ReadBuffer automaton
and what the buffer holds.
-/
import Poupool.Model.Firmware

namespace Poupool.Firmware
open Poupool.FirmwareConst

theorem wrap32_id {x : Int} (h1 : -2147483648 ≤ x) (h2 : x < 2147483648) : wrap32 x = x := by
  unfold wrap32; omega

theorem wrap32_range (x : Int) : -2147483648 ≤ wrap32 x ∧ wrap32 x < 2147483648 := by
  unfold wrap32; omega

theorem run_append (s : St) (a b : List Ev) : run s (a ++ b) = run (run s a) b := List.foldl_append
theorem run_snoc (s : St) (evs : List Ev) (e : Ev) : run s (evs ++ [e]) = step (run s evs) e := List.foldl_append
theorem step_byte (s : St) (b : Nat) : step s (.byte b) = actions (serialStep s b) none := rfl
theorem step_tick (s : St) (ms : Nat) : step s (.tick ms) = actions { s with clk := s.clk + ms } none := rfl

/-! ### the two sub-states with one owner each: the ReadBuffer (serial part of `loop()`) and the motor outputs
(`process_direction`) -/

structure RB where
  idx : Nat
  buf : List Nat
  oobWrite : Bool
  oobRead : Bool
  nDispatch : Nat
  lastCmd : List Nat
  deriving DecidableEq, Repr

def rbOf (s : St) : RB := ⟨s.idx, s.buf, s.oobWrite, s.oobRead, s.nDispatch, s.lastCmd⟩

def SameBuf (a b : St) : Prop := rbOf a = rbOf b

theorem SameBuf.rfl' (a : St) : SameBuf a a := rfl
theorem SameBuf.symm {a b : St} (h : SameBuf a b) : SameBuf b a := Eq.symm h

theorem sameBuf_emergencyStop (s : St) : SameBuf (emergencyStop s) s := rfl

structure MP where
  prevDir : Dir
  pinOpen : Bool
  pinClose : Bool
  deriving DecidableEq, Repr

def mpOf (s : St) : MP := ⟨s.prevDir, s.pinOpen, s.pinClose⟩

def Keeps (a b : St) : Prop := rbOf a = rbOf b ∧ mpOf a = mpOf b

theorem Keeps.refl (a : St) : Keeps a a := ⟨rfl, rfl⟩

theorem Keeps.trans {a b c : St} (h1 : Keeps a b) (h2 : Keeps b c) : Keeps a c :=
  ⟨h1.1.trans h2.1, h1.2.trans h2.2⟩

theorem Keeps.foldl {β : Type} {f : St → β → St} (l : List β) (s : St) (h : ∀ a x, Keeps (f a x) a) :
    Keeps (l.foldl f s) s :=
  List.foldlRecOn (motive := (Keeps · s)) l f (Keeps.refl s) fun a ha x _ => (h a x).trans ha

theorem Keeps.ite {c : Prop} [Decidable c] {a b s : St} (ha : Keeps a s) (hb : Keeps b s) :
    Keeps (if c then a else b) s := by
  split
  · exact ha
  · exact hb

theorem setDirection_eq (s : St) (d : Dir) :
    setDirection s d = { s with dir :=
      if d = .stop ∨ s.lim ≠ .none ∨ (d = .opn ∧ s.pos < s.opn) ∨ (d = .cls ∧ s.pos > s.close) then d else s.dir } := by
  cases d
  · simp only [setDirection, reduceCtorEq, false_or, true_and, false_and, or_false]
    split
    · rfl
    · rfl
  · simp only [setDirection, reduceCtorEq, false_or, true_and, false_and]
    split
    · rfl
    · rfl
  · rfl

theorem keeps_setDirection (s : St) (d : Dir) : Keeps (setDirection s d) s := by
  rw [setDirection_eq]
  exact ⟨rfl, rfl⟩

theorem keeps_setLimit (s : St) (d : Dir) : Keeps (setLimit s d) s := by
  cases d
  · exact ⟨rfl, rfl⟩
  · exact ⟨rfl, rfl⟩
  · dsimp only [setLimit]
    split <;> exact ⟨rfl, rfl⟩

theorem keeps_button (s : St) (k : Btn) : Keeps (button s k) s := by
  cases k with
  | openPressed | closePressed | released => exact keeps_setDirection s _
  | saveOpenPressed | saveClosePressed | saveReleased => exact keeps_setLimit s _

theorem coverIsr_cases (s : St) :
    ∃ p d, coverIsr s = { s with pos := p, dir := d, isrLast := s.clk } ∧ (d = s.dir ∨ d = .stop) ∧
      (p = s.pos ∨ p = wrap32 (s.pos + 1) ∨ p = wrap32 (s.pos - 1)) := by
  unfold coverIsr stepCover
  dsimp only
  split
  · split
    · split
      · exact ⟨_, _, rfl, .inr rfl, .inr (.inl rfl)⟩
      · exact ⟨_, _, rfl, .inl rfl, .inr (.inl rfl)⟩
    · split
      · exact ⟨_, _, rfl, .inr rfl, .inr (.inr rfl)⟩
      · exact ⟨_, _, rfl, .inl rfl, .inr (.inr rfl)⟩
    · exact ⟨_, _, rfl, .inl rfl, .inl rfl⟩
  · exact ⟨_, _, rfl, .inl rfl, .inl rfl⟩

theorem keeps_coverIsr (s : St) : Keeps (coverIsr s) s := by
  obtain ⟨p, d, e, _⟩ := coverIsr_cases s
  rw [e]
  exact ⟨rfl, rfl⟩

theorem keeps_waterIsr (s : St) : Keeps (waterIsr s) s := by
  unfold waterIsr
  split
  · exact ⟨rfl, rfl⟩
  · exact ⟨rfl, rfl⟩

theorem keeps_delayWithPulses (s : St) : Keeps (delayWithPulses s) s :=
  Keeps.foldl (f := delayPulse s.clk s.dpulses) _ { s with dpulses := 0 } fun _ _ => keeps_coverIsr _

theorem keeps_stallCheck (s : St) (now : Nat) : Keeps (stallCheck s now) s :=
  .ite (.trans ⟨rfl, rfl⟩ (.ite ⟨rfl, rfl⟩ (.refl s))) (.refl s)

theorem keeps_envelopeCheck (s : St) : Keeps (envelopeCheck s) s :=
  .ite (.ite ⟨rfl, rfl⟩ (.refl s)) (.refl s)

theorem keeps_ensureConsistency (s : St) (now : Nat) : Keeps (ensureConsistency s now) s := by
  unfold ensureConsistency
  split
  · exact (keeps_envelopeCheck _).trans (keeps_stallCheck s now)
  · exact Keeps.refl s

theorem keeps_processStop (s : St) (now : Nat) : Keeps (processStop s now) s :=
  .ite (.ite ⟨rfl, rfl⟩ (.refl s)) (.refl s)

theorem keeps_debugPrint (s : St) : Keeps (debugPrint s) s := by
  unfold debugPrint; exact Keeps.foldl _ _ fun _ _ => ⟨rfl, rfl⟩

theorem keeps_runOp (s : St) (op : Op) : Keeps (runOp s op) s := by
  cases op with
  | setOpen | setClose | setStop => exact keeps_setDirection s _
  | debug => exact keeps_debugPrint s
  | _ => exact ⟨rfl, rfl⟩

theorem keeps_ops (ops : List Op) (s : St) : Keeps (ops.foldl runOp s) s :=
  Keeps.foldl ops s keeps_runOp

theorem sameBuf_processDirection (s : St) (now : Nat) : SameBuf (processDirection s now) s := by
  unfold processDirection
  split
  · split
    · exact (keeps_delayWithPulses { s with run := .opn, pinClose := true }).1
    · exact (keeps_delayWithPulses { s with run := .cls, pinOpen := true }).1
    · rfl
  · rfl

theorem sameBuf_actions (s : St) (btn : Option Btn) : SameBuf (actions s btn) s := by
  unfold actions
  refine (keeps_processStop _ _).1.trans ((keeps_ensureConsistency _ _).1.trans
    ((sameBuf_processDirection _ _).trans ?_))
  cases btn with
  | none => rfl
  | some k => exact (keeps_button s k).1

theorem serialStep_eq (s : St) (b : Nat) :
    serialStep s b =
      if b = 13 then s
      else if s.idx = bufFullAt then dispatch (bufStore s 0)
      else if s.idx ≥ bufIgnoreAt then dispatch s
      else if b = 10 then dispatch (bufStore s 0)
      else bufStore s b := by
  unfold serialStep bufAdd
  by_cases h1 : b = 13
  · simp only [h1, if_true]; rfl
  by_cases h2 : s.idx = bufFullAt
  · simp only [h1, h2, if_true, if_false]
  by_cases h3 : s.idx ≥ bufIgnoreAt
  · simp only [h1, h2, h3, if_true, if_false]
  by_cases h4 : b = 10
  · simp only [h2, h3, h4, if_true, if_false, Nat.reduceEqDiff]
  · simp only [h1, h2, h3, h4, if_false]; rfl

/-! ### the pure ReadBuffer automaton -/

def rbStore (r : RB) (v : Nat) : RB :=
  if r.idx < bufSize then { r with buf := r.buf.set r.idx v, idx := r.idx + 1 }
  else { r with oobWrite := true, idx := r.idx + 1 }

def rbCstr (r : RB) : List Nat := r.buf.takeWhile (fun x => x != 0)

def rbDispatch (r : RB) : RB :=
  { idx := 0, buf := List.replicate bufSize 0, oobWrite := r.oobWrite,
    oobRead := if r.buf.any (fun x => x == 0) then r.oobRead else true,
    nDispatch := r.nDispatch + 1, lastCmd := rbCstr r }

/-- `ReadBuffer::add` followed, when it returns true, by the dispatch and `clear()` -/
def rbStep (r : RB) (b : Nat) : RB :=
  if b = 13 then r
  else if r.idx = bufFullAt then rbDispatch (rbStore r 0)
  else if r.idx ≥ bufIgnoreAt then rbDispatch r
  else if b = 10 then rbDispatch (rbStore r 0)
  else rbStore r b

def rbFeed (r : RB) (bs : List Nat) : RB := bs.foldl rbStep r

theorem rbOf_bufStore (s : St) (v : Nat) : rbOf (bufStore s v) = rbStore (rbOf s) v := by
  unfold bufStore bufWrite rbStore
  by_cases h : s.idx < bufSize
  · simp only [h, if_true, rbOf]
  · simp only [h, if_false, rbOf]

theorem rbOf_dispatch (s : St) : rbOf (dispatch s) = rbDispatch (rbOf s) := by
  have h (t : St) : rbOf (dispatchCore t) =
      ⟨0, List.replicate bufSize 0, t.oobWrite, t.oobRead, t.nDispatch + 1, cstr t⟩ :=
    congrArg (fun r : RB => (⟨0, List.replicate bufSize 0, r.oobWrite, r.oobRead, r.nDispatch + 1, cstr t⟩ : RB))
      (keeps_ops (findCmd (cstr t) commands) t).1
  unfold dispatch
  rw [h]
  split <;> simp [rbDispatch, rbOf, rbCstr, cstr, *]

theorem rbOf_serialStep (s : St) (b : Nat) : rbOf (serialStep s b) = rbStep (rbOf s) b := by
  simp only [serialStep_eq, rbStep, apply_ite rbOf, rbOf_dispatch, rbOf_bufStore]
  rfl

def bytesOf : List Ev → List Nat
  | [] => []
  | .byte b :: r => b :: bytesOf r
  | _ :: r => bytesOf r

theorem rbOf_step (s : St) (e : Ev) :
    rbOf (step s e) = match e with
      | .byte b => rbStep (rbOf s) b
      | _ => rbOf s := by
  cases e with
  | byte b => exact (sameBuf_actions (serialStep s b) none).trans (rbOf_serialStep s b)
  | tick ms => exact sameBuf_actions { s with clk := s.clk + ms } none
  | btn k => exact sameBuf_actions s (some k)
  | pulse => exact (keeps_coverIsr s).1
  | wpulse => exact (keeps_waterIsr s).1
  | _ => rfl

theorem rbOf_run (evs : List Ev) : ∀ s : St, rbOf (run s evs) = rbFeed (rbOf s) (bytesOf evs) := by
  induction evs with
  | nil => intro s; rfl
  | cons e es ih =>
    intro s
    show rbOf (run (step s e) es) = _
    rw [ih, rbOf_step]
    cases e <;> rfl

theorem set_append_replicate (pre : List Nat) (n c : Nat) :
    (pre ++ List.replicate (n + 1) 0).set pre.length c = (pre ++ [c]) ++ List.replicate n 0 := by
  rw [List.set_append]
  simp [List.replicate_succ]

theorem takeWhile_append_zeros (line : List Nat) (k : Nat) :
    (line ++ List.replicate (k + 1) 0).takeWhile (fun x => x != 0) = line.takeWhile (fun x => x != 0) := by
  induction line with
  | nil => simp [List.replicate_succ]
  | cons c cs ih =>
    simp only [List.cons_append, List.takeWhile_cons]
    split
    · rw [ih]
    · rfl

def Holds (r : RB) (pre : List Nat) : Prop :=
  r.idx = pre.length ∧ r.buf = pre ++ List.replicate (32 - pre.length) 0 ∧ r.oobWrite = false ∧ r.oobRead = false

/-- the buffer is empty and the firmware is "in step" -/
def Empty (r : RB) : Prop := r.idx = 0 ∧ r.buf = List.replicate 32 0 ∧ r.oobWrite = false ∧ r.oobRead = false

theorem Empty.holds {r : RB} (h : Empty r) : Holds r [] := h

theorem empty_init (p c o : Int) : Empty (rbOf (init p c o)) := ⟨rfl, rfl, rfl, rfl⟩

/-- a NUL stands at the index already (storing the terminator changes nothing), and the C string is `pre` up to its
first NUL -/
theorem Holds.cstr {r : RB} {pre : List Nat} (h : Holds r pre) (hl : pre.length ≤ 31) :
    r.buf.set r.idx 0 = r.buf ∧ r.buf.any (fun x => x == 0) = true ∧
    r.buf.takeWhile (fun x => x != 0) = pre.takeWhile (fun x => x != 0) := by
  rw [h.2.1, h.1, show 32 - pre.length = (31 - pre.length) + 1 by omega, set_append_replicate, takeWhile_append_zeros]
  simp [List.replicate_succ]

theorem Holds.dispatch {r : RB} {pre : List Nat} (h : Holds r pre) (hl : pre.length ≤ 31) {b : Nat} (hb : b ≠ 13)
    (hd : pre.length = 31 ∨ b = 10) :
    rbStep r b = ⟨0, List.replicate 32 0, false, false, r.nDispatch + 1, pre.takeWhile (fun x => x != 0)⟩ := by
  obtain ⟨hs, hz, hc⟩ := h.cstr hl
  obtain ⟨h1, _, h3, h4⟩ := h
  have : rbDispatch (rbStore r 0) =
      ⟨0, List.replicate 32 0, false, false, r.nDispatch + 1, r.buf.takeWhile (fun x => x != 0)⟩ := by
    unfold rbStore bufSize
    rw [if_pos (by omega), hs]
    simp only [rbDispatch, rbCstr, hz, if_true, h3, h4, bufSize]
  unfold rbStep bufFullAt bufIgnoreAt
  rw [if_neg hb, ← hc, ← this]
  by_cases hf : r.idx = 31
  · rw [if_pos hf]
  · rw [if_neg hf, if_neg (by omega), if_pos (hd.resolve_left (by omega))]

theorem Holds.store {r : RB} {pre : List Nat} (h : Holds r pre) (hl : pre.length < 31) {b : Nat}
    (hb : b ≠ 10 ∧ b ≠ 13) : Holds (rbStep r b) (pre ++ [b]) ∧ (rbStep r b).nDispatch = r.nDispatch := by
  obtain ⟨h1, h2, h3, h4⟩ := h
  have : rbStep r b = { r with buf := r.buf.set r.idx b, idx := r.idx + 1 } := by
    unfold rbStep rbStore bufFullAt bufIgnoreAt bufSize
    rw [if_neg hb.2, if_neg (by omega), if_neg (by omega), if_neg hb.1, if_pos (by omega)]
  rw [this]
  refine ⟨⟨by simp [h1], ?_, h3, h4⟩, rfl⟩
  show r.buf.set r.idx b = _
  rw [h2, h1, show 32 - pre.length = (32 - (pre ++ [b]).length) + 1 by simp; omega, set_append_replicate]

theorem Holds.feed (line : List Nat) : ∀ {r : RB} {pre : List Nat}, Holds r pre → pre.length + line.length ≤ 31 →
    (∀ c ∈ line, c ≠ 10 ∧ c ≠ 13) →
    Holds (rbFeed r line) (pre ++ line) ∧ (rbFeed r line).nDispatch = r.nDispatch := by
  induction line with
  | nil => intro r pre h _ _; exact ⟨by rw [List.append_nil]; exact h, rfl⟩
  | cons c cs ih =>
    intro r pre h hl hc
    simp only [List.length_cons] at hl
    obtain ⟨h', hn⟩ := h.store (by omega) (hc c (List.mem_cons_self ..))
    have := ih h' (by simp; omega) (fun x hx => hc x (List.mem_cons_of_mem _ hx))
    rw [List.append_assoc, hn] at this
    exact this

def RBOK (r : RB) : Prop := ∃ pre, Holds r pre ∧ pre.length ≤ 31

theorem rbStep_ok {r : RB} (b : Nat) (h : RBOK r) : RBOK (rbStep r b) := by
  obtain ⟨pre, h, hl⟩ := h
  by_cases hb : b = 13
  · exact ⟨pre, by rw [hb]; exact h, hl⟩
  by_cases hd : pre.length = 31 ∨ b = 10
  · exact ⟨[], by rw [h.dispatch hl hb hd]; exact ⟨rfl, rfl, rfl, rfl⟩, by simp⟩
  · exact ⟨pre ++ [b], (h.store (by omega) ⟨fun e => hd (.inr e), hb⟩).1, by simp; omega⟩

theorem rbok_run (evs : List Ev) {s : St} (h : RBOK (rbOf s)) : RBOK (rbOf (run s evs)) := by
  rw [rbOf_run]
  exact List.foldlRecOn (bytesOf evs) rbStep h fun _ ha b _ => rbStep_ok b ha

theorem rbok_init (p c o : Int) : RBOK (rbOf (init p c o)) := ⟨[], empty_init p c o, Nat.zero_le _⟩

theorem rbFeed_append (r : RB) (a b : List Nat) : rbFeed r (a ++ b) = rbFeed (rbFeed r a) b := List.foldl_append

end Poupool.Firmware
