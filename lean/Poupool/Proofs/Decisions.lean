import Poupool.Model.Tank
import Poupool.Model.Winter
import Poupool.Model.Heating
/-!
  What a poll of the decision models answers, read off its definition once (`f … = act ↔ condition on the inputs`): the answers
  of the four tank polls that the properties speak of, the stir decision of the wintering poll, the `heat` decision of Heating's
  waiting poll.
-/
namespace Poupool.Tank
variable {c : Cfg} {h tis : Int} {n : Nat}

theorem pollFill_eq_emergency : pollFill c h tis = .emergency ↔ twoHours < tis := by
  unfold pollFill
  repeat' split
  all_goals simp <;> omega

theorem pollFill_eq_rearm : pollFill c h tis = .rearm n ↔ n = 10 ∧ tis ≤ twoHours ∧ h ≤ c.tooLow := by
  unfold pollFill
  repeat' split
  all_goals simp <;> omega

theorem pollLow_eq_emergency :
    pollLow c h tis = .emergency ↔ sixHours < tis ∨ (h < c.low + c.hyst ∧ h < c.tooLow) := by
  unfold pollLow
  repeat' split
  all_goals simp <;> omega

theorem pollLow_eq_toNormal : pollLow c h tis = .toNormal ↔ tis ≤ sixHours ∧ c.low + c.hyst ≤ h := by
  unfold pollLow
  repeat' split
  all_goals simp <;> omega

theorem pollLow_eq_rearm :
    pollLow c h tis = .rearm n ↔ n = 10 ∧ tis ≤ sixHours ∧ h < c.low + c.hyst ∧ c.tooLow ≤ h := by
  unfold pollLow
  repeat' split
  all_goals simp <;> omega

theorem pollNormal_eq_toLow : pollNormal c h = .toLow ↔ h < c.low - c.hyst := by
  unfold pollNormal
  repeat' split
  all_goals simp <;> omega

theorem pollNormal_eq_rearm : pollNormal c h = .rearm n ↔ n = 20 ∧ c.low - c.hyst ≤ h ∧ h < c.high + c.hyst := by
  unfold pollNormal
  repeat' split
  all_goals simp <;> omega

theorem pollHigh_eq_toNormal : pollHigh c h = .toNormal ↔ h < c.high - c.hyst := by
  unfold pollHigh
  split <;> simp <;> omega

theorem pollHigh_eq_rearm : pollHigh c h = .rearm n ↔ n = 20 ∧ c.high - c.hyst ≤ h := by
  unfold pollHigh
  split <;> simp <;> omega

end Poupool.Tank

namespace Poupool.Winter

theorem poll_eq_stir {tis period thr : Int} {temp : Option Int} :
    poll tis period temp thr = .stir ↔ period < tis ∧ (temp = none ∨ ∃ t, temp = some t ∧ t ≤ thr) := by
  unfold poll
  cases temp <;> simp <;> repeat' split
  all_goals simp_all <;> omega

end Poupool.Winter

namespace Poupool.Heating

theorem waitingPoll_eq_heat {c : Cfg} {s : St} {now : Int} {pool air : Option Int} {ready allow : Bool} :
    (waitingPoll c s now pool air ready allow).1 = .heat ↔
      s.enable = true ∧ s.nextStart ≤ now ∧ poolReached c s pool = false ∧ airTooCold s air = false ∧
        ready = true ∧ allow = true := by
  unfold waitingPoll
  repeat' split
  all_goals simp_all <;> omega

end Poupool.Heating
