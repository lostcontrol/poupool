/-
  Whole days with heating interludes (C10 sections (f), (g), (h)).

  * `first_interlude`: what the FIRST interlude of a whole day leaves unaccounted, from the tick invariants at `heat`; with
    `after_interlude` (Proofs/EcoAfterHeat.lean) the bounds of a day with one interlude (`heat_day`, `heat_day_bounds`);
  * `Seg`, `SegsOK2`, `interlude_days`, `heat_days_run`, `heat_days_start`: runs with any number of complete interludes, per day and in all:
    the reset poll re-establishes the tick invariants (`Good`), so a heating day is followed by days to which the day theorems
    apply again; `SegsOK`: at most one interlude per day.
  The concrete runs of the examples are in EcoLongRuns.lean.
-/
import Poupool.Proofs.EcoAfterHeat

namespace Poupool.Eco
open Poupool.Generated

/-- slack of the lower bound of a whole day with one interlude: the reset poll of the day start, the slack of the plan
in progress at `heat` and the slack of the plan made after the interlude -/
def slackLoHeat (per eps : Int) : Int := 10000000 + 3 * eps + 2 * slackPlan per eps
/-- slack of the upper bound (interlude over before the quota is exceeded by a poll): one poll of overshoot, the two
compute delays, the poll lost at `heat`, `heatLoss`, lateness -/
def slackHiHeat (per eps : Int) : Int := 100000000 + 10 * (per * eps) + 22 * eps

theorem Static.slackHiHeat_lt {eps per delay : Int} (hst : Static eps per delay) : slackHiHeat per eps < 180 * US := by
  have hU : US = 1000000 := rfl
  have := hst.per_eps
  have := hst.heps5
  unfold slackHiHeat
  omega

/-- for at most five periods the two plans of a day with one interlude stay below the property's 180 s -/
theorem Static.slackLoHeat_lt {eps per delay : Int} (hst : Static eps per delay) (h5 : per ≤ 5) : slackLoHeat per eps < 180 * US := by
  have hU : US = 1000000 := rfl
  have := mul_eps_le h5 hst.heps
  have := hst.heps5
  unfold slackLoHeat slackPlan
  omega

theorem slackLo_le_heat {per eps : Int} (he : 0 ≤ eps) (hp1 : 1 ≤ per) : slackLo per eps ≤ slackLoHeat per eps := by
  have h0 : 0 ≤ per * eps := Int.mul_nonneg (by omega) he
  unfold slackLo slackLoHeat slackPlan
  omega

/-- When `heat` arrives (`dt` after the last handler, before the armed poll is handled) in a whole day, the pump-on time
so far plus ALL the time left until the reset covers `min delay (gDc + gRc)` up to the slack of the plan. -/
theorem on_schedule {eps : Int} {s : Loop} {dt : Int} (h : Inv eps s) (hfull : s.full = true)
    (hph : s.phase = .waiting ∨ s.phase = .normal) (hdt : 0 ≤ dt ∧ s.now + dt ≤ max s.now s.due + eps) :
    min s.eco.filtration.delay (s.gDc + s.gRc) - slackOf eps s.gJ s.gN
      ≤ s.onToday + (if s.pumpOn then dt else 0) + max 0 (s.eco.nextReset - (s.now + dt)) := by
  have hs := h.on_schedule (hph.imp_right Or.inl) (t := s.now + dt) ⟨by omega, hdt.2⟩
  have := h.common.hacc1 hfull
  have := res_nonneg s h.common.heps
  have : max 0 (s.now + dt - s.now - res eps s) ≤ dt := Int.max_le.mpr ⟨hdt.1, by omega⟩
  cases hpu : s.pumpOn
  · rw [hpu, if_neg Bool.false_ne_true] at hs
    rw [if_neg Bool.false_ne_true]
    omega
  · rw [hpu, if_pos rfl] at hs
    rw [if_pos rfl]
    omega

/-- arithmetic of the first interlude of a whole day: what it leaves unaccounted (`onx - durx`) and how much pump-on
time the day can still reach (`onx + (NR - nowx)`), from the accounting at `heat` and the interlude's accounting -/
theorem first_interlude_arith {delay day poll sl eps on dur gU A gTc gRc now NR dt z nowx onx durx loss : Int}
    (h1 : dur ≤ on) (h2 : on ≤ dur + gU) (hA : gU ≤ A) (h3 : on ≤ now - gTc + 2 * eps)
    (hRc : gRc = max 0 (NR - gTc)) (hRc1 : day - poll - 3 * eps ≤ gRc) (hRc2 : gRc ≤ day)
    (hz0 : 0 ≤ z) (hz : z ≤ dt) (hdt : dt ≤ poll + eps)
    (hs : min delay gRc - sl ≤ on + z + max 0 (NR - (now + dt)))
    (hon : onx = on + z + (nowx - (now + dt))) (hlo : dur + (nowx - (now + dt)) - loss ≤ durx)
    (hhi : durx ≤ dur + (nowx - (now + dt))) (hnr : nowx < NR) (hth : now + dt ≤ nowx) :
    0 ≤ onx - durx ∧ onx - durx ≤ A + (poll + eps) + loss
    ∧ min delay day - (poll + 3 * eps) - sl ≤ onx + (NR - nowx) ∧ onx + (NR - nowx) ≤ day + 2 * eps := by
  omega

/-- What the FIRST interlude of a whole day leaves in the `eco_compute` state `c` in which it ends (`NR` = the reset instant):
the pump-on time not accounted (`c.onToday - c` accounted duration) is at most the allowance at `heat` + one poll + `heatLoss`,
and the pump-on time so far plus the time left to the reset is a day up to the slack of the plan that was in progress at `heat`. -/
def FirstBounds (eps per delay : Int) (c : Loop) (NR : Int) : Prop :=
  0 ≤ c.onToday - c.eco.filtration.duration
  ∧ c.onToday - c.eco.filtration.duration
      ≤ EcoConfig.computeDelayUs + 4 * (per * eps) + 8 * eps + (EcoConfig.pollDelayUs + eps) + heatLoss eps
  ∧ min delay DAY - (EcoConfig.pollDelayUs + 3 * eps) - slackPlan per eps ≤ c.onToday + (NR - c.now)
  ∧ c.onToday + (NR - c.now) ≤ DAY + 2 * eps

section
variable {eps per delay : Int} {s : Loop} {dt : Int}

/-- `heat` arrives in `s`, in a whole day without interlude so far; `x`: the state in which `on_enter_eco_compute` runs when the
delay of that interlude expires, before the reset. -/
theorem first_interlude {gU0 : Int} {fl : Bool} {days0 : List DayRec} {x : Loop} (hst : Static eps per delay) (hi : Inv eps s)
    (hd : DayInv eps per delay s) (hfull : s.full = true) (hph : s.phase = .waiting ∨ s.phase = .normal)
    (hdt : 0 ≤ dt ∧ s.now + dt ≤ max s.now s.due + eps)
    (h : HeatDone eps per delay s.eco.nextReset (s.now + dt) s.eco.filtration.duration
      (s.onToday + (if s.pumpOn then dt else 0)) gU0 fl days0 x)
    (hnr : x.now < x.eco.nextReset) :
    FirstBounds eps per delay (x.enterCompute eps).1 s.eco.nextReset := by
  rw [enterCompute_noreset eps x hnr]
  rw [h.hNR] at hnr
  have hph3 : s.phase = .waiting ∨ s.phase = .normal ∨ s.phase = .tank := hph.imp_right Or.inl
  have hth : s.now + dt ≤ x.now := by have := h.hth; have := cfg_hd; omega
  have hdtp : dt ≤ EcoConfig.pollDelayUs + eps := by
    have := (hi.reset_time hst.late ⟨Int.le_refl 0, hst.heps⟩ hph3).1
    have := cfg_poll
    omega
  have hz : 0 ≤ (if s.pumpOn = true then dt else 0) ∧ (if s.pumpOn = true then dt else 0) ≤ dt := by
    split <;> omega
  -- at `heat`: the accounting of the day, the plan of a day that started at a reset, the allowances in closed form
  obtain ⟨a1, a2, -⟩ := hi.accounting hfull
  obtain ⟨g1, g2, g3, -, g5⟩ := hd.hfull hfull
  obtain ⟨hJ, hU⟩ := hd.allowances hst.heps hph3
  have hsl := slackOf_le_plan hst.heps hd.hN hJ
  have hsched := on_schedule hi hfull hph hdt
  rw [hd.hdel, g1, Int.zero_add] at hsched
  have hRc : s.gRc = max 0 (s.eco.nextReset - s.gTc) := by rw [hi.common.hRc, hi.common.hNr]
  exact first_interlude_arith a1 a2 (hU hfull) g5 hRc g3 g2 hz.1 hz.2 hdtp (Int.le_trans (Int.sub_le_sub_left hsl _) hsched) h.hon h.hlo
    h.hhi hnr hth

end

section
variable {eps per delay : Int} {s : Loop} {dt : Int} {polls : List Ev} {dt' jd j1 j2 : Int} {c : Loop}

/-- Whole day with one complete interlude, after a tick-only history, that ends in the `eco_compute` state `c`; then ticks: the record
of that day, the one right above the days finished before `heat`, if the ticks reach the reset. -/
theorem heat_day (hst : Static eps per delay) (hg : Good eps per delay s) (hfull : s.full = true)
    (hph : s.phase = .waiting ∨ s.phase = .normal) (hok : InterludeOK eps s dt polls dt' jd)
    (hc : ecoFinal eps s (interludeEvs dt polls dt' jd j1 j2) = c) (hnr : c.now < s.eco.nextReset)
    {post : List Ev} (hpost : ∀ e ∈ post, TickOK eps e) {r : DayRec} (hr : (r :: s.days) <:+ (ecoFinal eps c post).days) :
    r.full = true ∧ r.plain = false ∧ LastBounds eps per delay c s.eco.nextReset r ∧ FirstBounds eps per delay c s.eco.nextReset := by
  subst hc
  obtain ⟨x, hx, hnr', hdone⟩ :=
    interlude_before_reset hst.heps hph hg.hd.hper hg.hd.hdel hg.hd.hpd hok hnr
  rw [hx] at hr ⊢
  have hF := first_interlude (s := withDays [] s) hst hg.hi hg.hd hfull hph hok.1 hdone hnr'
  rcases after_interlude hst hdone hnr' hg.hd.h0 hpost rfl with ⟨hT, -⟩ | ⟨a, b, rfl, -, r', hd, hpl, hfl, hL⟩
  · rw [hT.hdays] at hr
    exact absurd hr (not_cons_suffix r _)
  · have hs' : (r' :: s.days) <:+ (ecoFinal eps (x.enterCompute eps).1 (a ++ b)).days := by
      rw [ecoFinal_append, ← hd]
      exact run_days_suffix eps b _
    obtain rfl := suffix_head_unique hr hs'
    exact ⟨hfl.trans hfull, hpl, hL hfull, hF⟩

/-- The bounds of a whole day with one interlude, from what the last interlude determines and what the first one leaves when they are
the same (arithmetic only).  In the form of the monitor of checks/c10.py: the pump-on time of the day is at least
`min delay 24h - slackLoHeat` and at most `max (min delay 24h) c.onToday + slackHiHeat`; if the quota was used up at `c` the pump stops
after the compute delay.  When the interlude is over before the accounted duration exceeds the quota by more than a poll: two-sided
around `min delay 24h`, and within `slackPlan` of the quota if it was still reachable at `c`. -/
theorem heat_day_bounds {NR : Int} {r : DayRec} (hst : Static eps per delay)
    (hL : LastBounds eps per delay c NR r) (hF : FirstBounds eps per delay c NR) :
    min delay DAY - slackLoHeat per eps ≤ r.on
    ∧ r.on ≤ max (min delay DAY) c.onToday + slackHiHeat per eps
    ∧ (delay ≤ c.eco.filtration.duration →
        delay ≤ r.on ∧ c.onToday ≤ r.on ∧ r.on ≤ c.onToday + EcoConfig.computeDelayUs + eps)
    ∧ (c.eco.filtration.duration ≤ delay + EcoConfig.pollDelayUs + eps →
        (delay ≤ c.onToday + (NR - c.now) → delay - slackPlan per eps ≤ r.on) ∧ r.on ≤ min delay DAY + slackHiHeat per eps) := by
  obtain ⟨hE, hL⟩ := hL
  obtain ⟨u1, u2, u3, u4⟩ := hF
  have hpoll := cfg_poll
  have hcd := cfg_cd
  have hhd := cfg_hd
  have hpe := hst.per_eps.1
  have heps := hst.heps
  have hsl : 0 ≤ slackPlan per eps := by have := hst.hper1; unfold slackPlan; omega
  unfold slackLoHeat slackHiHeat
  unfold heatLoss at u2
  generalize slackPlan per eps = sl at *
  by_cases hub : c.eco.filtration.duration ≤ delay + EcoConfig.pollDelayUs + eps
  · have := hE hub
    refine ⟨by omega, by omega, fun hl => ?_, fun _ => ⟨by omega, by omega⟩⟩
    have := hL hl
    omega
  · have := hL (by omega)
    exact ⟨by omega, by omega, fun _ => by omega, fun h => absurd h hub⟩

/-- At every instant `e` after an interlude of a whole day that is over before the accounted duration exceeds the quota by more than
a poll: either the heating day is still running (the pump has run at least the accounted duration plus what the interlude left
unaccounted; the accounted duration is within a poll of the quota), or its record exists. -/
theorem heat_day_early_run (hst : Static eps per delay) (hg : HeatReady per delay s) (hfull : s.full = true)
    (hph : s.phase = .waiting ∨ s.phase = .normal) (hok : InterludeOK eps s dt polls dt' jd)
    (hc : ecoFinal eps s (interludeEvs dt polls dt' jd j1 j2) = c) (hnr : c.now < s.eco.nextReset)
    (hub : c.eco.filtration.duration ≤ delay + EcoConfig.pollDelayUs + eps)
    {post : List Ev} (hpost : ∀ e ∈ post, TickOK eps e) {e : Loop} (he : ecoFinal eps c post = e) :
    (e.days = s.days ∧ e.full = true ∧ e.gPlain = false
      ∧ e.eco.filtration.duration + (c.onToday - c.eco.filtration.duration) ≤ e.onToday
      ∧ e.eco.filtration.duration ≤ delay + EcoConfig.pollDelayUs + eps)
    ∨ ∃ r, (r :: s.days) <:+ e.days := by
  subst hc he
  obtain ⟨x, hx, hnr', hdone⟩ :=
    interlude_before_reset hst.heps hph hg.hper hg.hdel hg.hpd hok hnr
  rw [hx] at hub ⊢
  rcases after_interlude hst hdone hnr' hg.h0 hpost rfl with ⟨hT, hP⟩ | ⟨a, b, rfl, -, r, hr, -⟩
  · left
    have hf := hT.hfull.trans hfull
    have h1 := (hP hub).hq.common.hacc1 hf
    have h2 := (hP hub).hq.common.hub hf
    have hdel : (ecoFinal eps (x.enterCompute eps).1 post).eco.filtration.delay = delay := hT.hd.hdel
    simp only [shadow] at h1 h2
    rw [hdel] at h2
    exact ⟨hT.hdays, hf, hT.hplain, by omega, h2⟩
  · right
    refine ⟨r, ?_⟩
    rw [ecoFinal_append, ← hr]
    exact run_days_suffix eps b _

end

/-- a stretch of timer expiries followed by one complete heating interlude -/
structure Seg where
  pre : List Ev
  dt : Int
  polls : List Ev
  dt' : Int
  jd : Int
  j1 : Int
  j2 : Int
  deriving Repr, Inhabited

def Seg.inter (g : Seg) : List Ev := interludeEvs g.dt g.polls g.dt' g.jd g.j1 g.j2
def Seg.evs (g : Seg) : List Ev := g.pre ++ g.inter

def segsEvs : List Seg → List Ev
  | [] => []
  | g :: gs => g.evs ++ segsEvs gs

theorem segsEvs_concat (gs : List Seg) (g : Seg) : segsEvs (gs ++ [g]) = segsEvs gs ++ g.evs := by
  induction gs with
  | nil => exact List.append_nil _
  | cons g0 gs ih => simp only [List.cons_append, segsEvs, ih, List.append_assoc]

instance (eps : Int) (e : Ev) : Decidable (TickOK eps e) := by
  cases e <;> unfold TickOK <;> infer_instance

/-- side conditions of a segment started in state `s`: the ticks are handled at most `eps` late; when `heat` arrives no
interlude has taken place yet that day (`gPlain`: this day is later than the day of the previous interlude), the pool is in
eco_waiting / eco_normal, the interlude is well-formed and over before the reset -/
def SegOK (eps : Int) (s : Loop) (g : Seg) : Prop :=
  (∀ e ∈ g.pre, TickOK eps e)
  ∧ (ecoFinal eps s g.pre).gPlain = true
  ∧ ((ecoFinal eps s g.pre).phase = .waiting ∨ (ecoFinal eps s g.pre).phase = .normal)
  ∧ InterludeOK eps (ecoFinal eps s g.pre) g.dt g.polls g.dt' g.jd
  ∧ (ecoFinal eps s g.evs).now < (ecoFinal eps s g.pre).eco.nextReset

instance (eps : Int) (s : Loop) (g : Seg) : Decidable (SegOK eps s g) := by unfold SegOK; infer_instance

def SegsOK (eps : Int) : Loop → List Seg → Prop
  | _, [] => True
  | s, g :: gs => SegOK eps s g ∧ SegsOK eps (ecoFinal eps s g.evs) gs

def SegsOK.dec (eps : Int) : (s : Loop) → (gs : List Seg) → Decidable (SegsOK eps s gs)
  | _, [] => isTrue trivial
  | s, g :: gs =>
    have := SegsOK.dec eps (ecoFinal eps s g.evs) gs
    inferInstanceAs (Decidable (SegOK eps s g ∧ SegsOK eps (ecoFinal eps s g.evs) gs))

instance (eps : Int) (s : Loop) (gs : List Seg) : Decidable (SegsOK eps s gs) := SegsOK.dec eps s gs

/-- side conditions of a segment when several interludes per day are allowed (`SegOK` without `gPlain`) -/
def SegOK2 (eps : Int) (s : Loop) (g : Seg) : Prop :=
  (∀ e ∈ g.pre, TickOK eps e)
  ∧ ((ecoFinal eps s g.pre).phase = .waiting ∨ (ecoFinal eps s g.pre).phase = .normal)
  ∧ InterludeOK eps (ecoFinal eps s g.pre) g.dt g.polls g.dt' g.jd
  ∧ (ecoFinal eps s g.evs).now < (ecoFinal eps s g.pre).eco.nextReset

instance (eps : Int) (s : Loop) (g : Seg) : Decidable (SegOK2 eps s g) := by unfold SegOK2; infer_instance

def SegsOK2 (eps : Int) : Loop → List Seg → Prop
  | _, [] => True
  | s, g :: gs => SegOK2 eps s g ∧ SegsOK2 eps (ecoFinal eps s g.evs) gs

def SegsOK2.dec (eps : Int) : (s : Loop) → (gs : List Seg) → Decidable (SegsOK2 eps s gs)
  | _, [] => isTrue trivial
  | s, g :: gs =>
    have := SegsOK2.dec eps (ecoFinal eps s g.evs) gs
    inferInstanceAs (Decidable (SegOK2 eps s g ∧ SegsOK2 eps (ecoFinal eps s g.evs) gs))

instance (eps : Int) (s : Loop) (gs : List Seg) : Decidable (SegsOK2 eps s gs) := SegsOK2.dec eps s gs

theorem segsOK2_append (eps : Int) (gs : List Seg) (g : Seg) :
    ∀ s : Loop, SegsOK2 eps s (gs ++ [g]) → SegsOK2 eps s gs ∧ SegOK2 eps (ecoFinal eps s (segsEvs gs)) g := by
  induction gs with
  | nil => intro s h; exact ⟨trivial, h.1⟩
  | cons g0 gs ih =>
    intro s h
    obtain ⟨h1, h2⟩ := h
    obtain ⟨h3, h4⟩ := ih _ h2
    refine ⟨⟨h1, h3⟩, ?_⟩
    show SegOK2 eps (ecoFinal eps s (g0.evs ++ segsEvs gs)) g
    rw [ecoFinal_append]
    exact h4

theorem segsOK2_of_segsOK (eps : Int) (gs : List Seg) : ∀ s : Loop, SegsOK eps s gs → SegsOK2 eps s gs := by
  induction gs with
  | nil => intro s _; trivial
  | cons g gs ih =>
    intro s h
    obtain ⟨⟨h1, h2, h3, h4, h5⟩, h6⟩ := h
    exact ⟨⟨h1, h3, h4, h5⟩, ih _ h6⟩

/-- every `heat` of a `SegsOK` run arrives in a day that had no interlude yet -/
theorem segsOK_plain (eps : Int) (gs1 : List Seg) (g : Seg) (gs2 : List Seg) :
    ∀ S : Loop, SegsOK eps S (gs1 ++ g :: gs2) → (ecoFinal eps (ecoFinal eps S (segsEvs gs1)) g.pre).gPlain = true := by
  induction gs1 with
  | nil => intro S h; exact h.1.2.1
  | cons g0 gs ih =>
    intro S h
    show (ecoFinal eps (ecoFinal eps S (g0.evs ++ segsEvs gs)) g.pre).gPlain = true
    rw [ecoFinal_append]
    exact ih _ h.2

/-- What is claimed for every finished day of a run `segsEvs gs ++ …` from `S` whose final list of days is `days`: a tick-only
day, or the day whose LAST interlude is that of a segment `g`, whose `heat` arrived in `s` and which ended in the `eco_compute`
state `c` — its record lies right above the days finished at `s`; `LastBounds` for `c`, and `FirstBounds` if that interlude was
also the first of its day. -/
def RecSpec (eps per delay : Int) (S : Loop) (gs : List Seg) (days : List DayRec) (r : DayRec) : Prop :=
  TickDayOK eps per delay r
  ∨ ∃ gs1 g gs2 s c, gs = gs1 ++ g :: gs2
      ∧ ecoFinal eps (ecoFinal eps S (segsEvs gs1)) g.pre = s ∧ ecoFinal eps (ecoFinal eps S (segsEvs gs1)) g.evs = c
      ∧ (r :: s.days) <:+ days ∧ r.plain = false
      ∧ (r.full = true →
          LastBounds eps per delay c s.eco.nextReset r ∧ (s.gPlain = true → FirstBounds eps per delay c s.eco.nextReset))

theorem recSpec_mono {eps per delay : Int} {S : Loop} {gs : List Seg} (g' : Seg) {days days' : List DayRec} {r : DayRec}
    (hd : days <:+ days') (h : RecSpec eps per delay S gs days r) : RecSpec eps per delay S (gs ++ [g']) days' r := by
  rcases h with h | ⟨gs1, g, gs2, s, c, h1, hs, hc, h2, h3⟩
  · exact Or.inl h
  · exact Or.inr ⟨gs1, g, gs2 ++ [g'], s, c, by rw [h1]; simp, hs, hc, h2.trans hd, h3⟩

section
variable {eps per delay : Int}

/-- What one complete interlude and the ticks after it add to the finished days.  `heat` arrives in `s`, a `Good` state or the `Tail`
of an earlier interlude of the same day; the interlude ends in the `eco_compute` state `c`, a `Tail` state; the poll that sees the
reset, if the ticks reach it, pushes the record `r` of the day and gives a `Good` state again, from which tick-only days `N` follow. -/
theorem interlude_days (hst : Static eps per delay) {s : Loop} (hs : Good eps per delay s ∨ ∃ D fl, Tail eps per delay D fl s)
    (hph : s.phase = .waiting ∨ s.phase = .normal) {dt : Int} {polls : List Ev} {dt' jd j1 j2 : Int}
    (hok : InterludeOK eps s dt polls dt' jd) {c : Loop} (hc : ecoFinal eps s (interludeEvs dt polls dt' jd j1 j2) = c)
    (hnr : c.now < s.eco.nextReset) {post : List Ev} (hpost : ∀ e ∈ post, TickOK eps e) :
    (Good eps per delay (ecoFinal eps c post) ∨ ∃ D fl, Tail eps per delay D fl (ecoFinal eps c post))
    ∧ ((ecoFinal eps c post).days = s.days
      ∨ ∃ N r, (ecoFinal eps c post).days = N ++ r :: s.days ∧ (∀ r' ∈ N, TickDayOK eps per delay r') ∧ r.plain = false
          ∧ (r.full = true → LastBounds eps per delay c s.eco.nextReset r
              ∧ (s.gPlain = true → FirstBounds eps per delay c s.eco.nextReset))) := by
  subst hc
  have hR : HeatReady per delay s := hs.elim Good.ready fun ⟨_, _, hT⟩ => hT.ready
  obtain ⟨x, hx, hnr', hdone⟩ :=
    interlude_before_reset hst.heps hph hR.hper hR.hdel hR.hpd hok hnr
  rw [hx]
  rcases after_interlude hst hdone hnr' hR.h0 hpost rfl with ⟨hT, -⟩ | ⟨a, b, rfl, hga, r, hda, hrp, hrf, hL⟩
  · exact ⟨Or.inr ⟨_, _, hT⟩, Or.inl hT.hdays⟩
  · -- the reset was seen after `a`: `Good` again, then tick-only days
    obtain ⟨hgb, N, hN, hNok⟩ := good_run hst hga fun e he => hpost e (List.mem_append_right _ he)
    rw [ecoFinal_append]
    have hfull : r.full = true → s.full = true := fun hf => hrf ▸ hf
    refine ⟨Or.inl hgb, Or.inr ⟨N, r, hN.trans (by rw [hda]), hNok, hrp, fun hf => ⟨hL (hfull hf), fun hpl => ?_⟩⟩⟩
    have hG : Good eps per delay s := hs.elim id fun ⟨_, _, hT⟩ => by rw [hT.hplain] at hpl; cases hpl
    exact first_interlude (s := withDays [] s) hst hG.hi hG.hd (hfull hf) hph hok.1 hdone hnr'

/-- Runs from a `Good` state made of segments and a tick-only tail, by induction on the segments, the last one split off. -/
theorem heat_days_run (hst : Static eps per delay) {S : Loop} (hS : Good eps per delay S)
    (hS0 : ∀ r ∈ S.days, TickDayOK eps per delay r) {gs : List Seg} {post : List Ev} (hpost : ∀ e ∈ post, TickOK eps e)
    (hok : SegsOK2 eps S gs) :
    (∀ r ∈ (ecoFinal eps (ecoFinal eps S (segsEvs gs)) post).days,
        RecSpec eps per delay S gs (ecoFinal eps (ecoFinal eps S (segsEvs gs)) post).days r)
    ∧ (Good eps per delay (ecoFinal eps (ecoFinal eps S (segsEvs gs)) post)
        ∨ ∃ D fl, Tail eps per delay D fl (ecoFinal eps (ecoFinal eps S (segsEvs gs)) post)) := by
  revert post
  rw [← gs.reverse_reverse] at hok ⊢
  generalize gs.reverse = rs at hok ⊢
  induction rs with
  | nil =>
    intro post hpost
    obtain ⟨hg, N, hN, hNok⟩ := good_run hst hS hpost
    refine ⟨fun r hr => ?_, Or.inl hg⟩
    rw [show (ecoFinal eps (ecoFinal eps S (segsEvs [].reverse)) post).days = N ++ S.days from hN] at hr
    exact Or.inl ((List.mem_append.mp hr).elim (hNok r) (hS0 r))
  | cons g rs ih =>
    intro post hpost
    rw [List.reverse_cons] at hok ⊢
    generalize rs.reverse = gs' at hok ih ⊢
    obtain ⟨hok', g1, g3, g4, g5⟩ := segsOK2_append eps gs' g S hok
    obtain ⟨hA, hB⟩ := ih hok' g1
    rw [segsEvs_concat, ecoFinal_append]
    -- `s1`: the state in which the `heat` of `g` arrives, `c`: the `eco_compute` state in which its interlude ends
    have hc : ecoFinal eps (ecoFinal eps (ecoFinal eps S (segsEvs gs')) g.pre) g.inter = ecoFinal eps (ecoFinal eps S (segsEvs gs')) g.evs :=
      (ecoFinal_append ..).symm
    obtain ⟨hB', hD⟩ := interlude_days hst hB g3 g4 hc g5 hpost
    refine ⟨fun r hr => ?_, hB'⟩
    rcases hD with hD | ⟨N, r0, hD, hN, hb⟩
    · -- the day of the interlude is still running
      rw [hD] at hr ⊢
      exact recSpec_mono g (List.suffix_refl _) (hA r hr)
    · rw [hD] at hr ⊢
      rcases List.mem_append.mp hr with h | h
      · exact Or.inl (hN r h)
      rcases List.mem_cons.mp h with h | h
      · exact Or.inr ⟨gs', g, [], _, _, rfl, rfl, rfl, h ▸ List.suffix_append _ _, h ▸ hb⟩
      · exact recSpec_mono g ((List.suffix_cons _ _).trans (List.suffix_append _ _)) (hA r h)

end

theorem start_good {eps : Int} {p : Params} (he : 0 ≤ eps) (he2 : eps ≤ 600000)
    (hd : 1 ≤ p.dailyS) (hp1 : 1 ≤ p.period) (hp2 : p.period ≤ 10) (hel : 0 ≤ p.elapsedS)
    (hs : p.start < nextResetAt p.start p.resetHour) :
    Static eps p.period (p.dailyS * US) ∧ Good eps p.period (p.dailyS * US) (Loop.start eps p).1
    ∧ (Loop.start eps p).1.days = [] := by
  obtain ⟨hst, hi, hd'⟩ := start_day_run (evs := []) he he2 hd hp1 hp2 hel hs (fun _ h => nomatch h)
  exact ⟨hst, ⟨inv_clr hi, dayInv_clr hd'⟩, start_days p eps hs⟩

/-- Runs from `Loop.start` made of segments (ticks, then one complete interlude) and a tick-only tail: every finished day but
the first started at a reset, and every finished day is within `RecSpec`. -/
theorem heat_days_start {eps : Int} {p : Params} {gs : List Seg} {post : List Ev} (he : 0 ≤ eps) (he2 : eps ≤ 600000)
    (hd : 1 ≤ p.dailyS) (hp1 : 1 ≤ p.period) (hp2 : p.period ≤ 10) (hel : 0 ≤ p.elapsedS)
    (hs : p.start < nextResetAt p.start p.resetHour)
    (hok : SegsOK2 eps (Loop.start eps p).1 gs) (hpost : ∀ e ∈ post, TickOK eps e) :
    Static eps p.period (p.dailyS * US)
    ∧ (∀ r ∈ (ecoFinal eps (ecoFinal eps (Loop.start eps p).1 (segsEvs gs)) post).days.dropLast, r.full = true)
    ∧ ∀ r ∈ (ecoFinal eps (ecoFinal eps (Loop.start eps p).1 (segsEvs gs)) post).days,
        RecSpec eps p.period (p.dailyS * US) (Loop.start eps p).1 gs
          (ecoFinal eps (ecoFinal eps (Loop.start eps p).1 (segsEvs gs)) post).days r := by
  obtain ⟨hst, hG, hd0⟩ := start_good he he2 hd hp1 hp2 hel hs
  exact ⟨hst, (seq_run eps _ (seq_run eps _ (seq_start eps hs))).2,
    (heat_days_run hst hG (fun r hr => by rw [hd0] at hr; cases hr) hpost hok).1⟩

end Poupool.Eco
