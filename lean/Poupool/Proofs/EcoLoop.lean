/-
  Invariants of the closed loop `ecoStep` (Model/Eco.lean) along runs made of `tick` events (no heating
  interlude), every handler at most `eps` late.  The arithmetic of a plan (`plan_arith`); what the invariant says phase by
  phase (`Computing`, `Waiting`, `Running`); `Inv.on_schedule`: at every instant of a polled phase the plan is on schedule.
-/
import Poupool.Proofs.EcoArith

namespace Poupool.Eco
open Poupool.Generated

theorem cfg_poll : EcoConfig.pollDelayUs = 10000000 := by decide
theorem cfg_cd : EcoConfig.computeDelayUs = 5000000 := by decide
theorem cfg_minOn : EcoConfig.minOnUs = 3600000000 := by decide
theorem cfg_tankMin : EcoConfig.tankMinUs = 60000000 := by decide
theorem cfg_offClamp : EcoConfig.offClamp = true := by decide
theorem cfg_keep : EcoConfig.keepElapsed = true := by decide

def DayOK (r : DayRec) : Prop :=
  r.full = true → r.plain = true → (r.lb ≤ r.dur ∧ r.dur ≤ r.ub ∧ r.dur ≤ r.on ∧ r.on ≤ r.dur + r.u)

/-- timers of a polled phase: just entered (`none`, first poll armed now) or polled at `now` -/
def TimersAt (s : Loop) : Prop :=
  (s.eco.filtration.last = none ∧ s.eco.current.last = none ∧ s.eco.current.duration = 0 ∧ s.due = s.now) ∨
  (s.eco.filtration.last = some s.now ∧ s.eco.current.last = some s.now ∧ s.due = s.now + EcoConfig.pollDelayUs)

/-- lateness / uncounted time reserved for the first poll of a freshly entered polled phase -/
def res (eps : Int) (s : Loop) : Int := if s.eco.filtration.last = none then eps else 0

def idle (s : Loop) : Int := s.now - s.gTc - (s.eco.filtration.duration - s.gDc)

structure Common (eps : Int) (s : Loop) : Prop where
  heps : 0 ≤ eps
  heps2 : eps ≤ HOUR
  hdelay : 0 ≤ s.eco.filtration.delay
  hnext : s.now < s.eco.nextReset + EcoConfig.computeDelayUs + eps
  hTc : s.gTc ≤ s.now
  hN : 1 ≤ s.gN
  hoff : 0 ≤ s.eco.offD
  hon : 0 < s.eco.onD
  htank : 0 < s.eco.tankD
  hNoff : 2 * (s.gN * s.eco.offD) ≤ max 0 (2 * (s.gRc - s.gD) + s.gN)
  hNP : s.gRc ≤ s.eco.onD + s.eco.tankD ∨ 2 * s.gD - s.gN ≤ 2 * (s.gN * (s.eco.onD + s.eco.tankD))
  hD : s.gD = max 0 (s.eco.filtration.delay - s.gDc)
  hRc : s.gRc = max 0 (s.gNr - s.gTc)
  hNr : s.eco.nextReset = s.gNr
  hplain : s.gPlain = true
  hW : s.gWoff = s.gW * (s.eco.offD + (EcoConfig.pollDelayUs + eps))
  hC : s.gCredit = s.gCyc * (s.eco.onD + s.eco.tankD)
  hW0 : 0 ≤ s.gW
  hJ0 : 0 ≤ s.gJ
  hacc1 : s.full = true → s.eco.filtration.duration ≤ s.onToday
  hub : s.full = true → s.eco.filtration.duration ≤ s.eco.filtration.delay + EcoConfig.pollDelayUs + eps
  hdays : ∀ r ∈ s.days, DayOK r

def PhaseInv (eps : Int) (s : Loop) : Prop :=
  (s.phase = .compute ∧ s.now = s.gTc ∧ s.due = s.gTc + EcoConfig.computeDelayUs ∧ s.eco.filtration.duration = s.gDc
        ∧ s.gJ = EcoConfig.computeDelayUs + eps ∧ s.gWoff = 0 ∧ s.gW = 0 ∧ s.gCredit = 0 ∧ s.gCyc = 0 ∧ s.now < s.eco.nextReset
        ∧ (s.full = true → s.onToday + (EcoConfig.computeDelayUs + eps) ≤ s.eco.filtration.duration + s.gU))
    ∨ (s.phase = .waiting ∧ s.pumpOn = false ∧ TimersAt s ∧ s.eco.current.delay = s.eco.offD
        ∧ (s.full = true → s.onToday ≤ s.eco.filtration.duration + s.gU)
        ∧ (s.eco.filtration.last = none ∨ s.now < s.eco.nextReset)
        ∧ (s.eco.filtration.elapsed = true ∨
            (idle s + res eps s ≤ s.gJ + s.gWoff + s.eco.current.duration
             ∧ (s.eco.filtration.last = none ∨ s.eco.current.duration < s.eco.offD)
             ∧ s.gCredit ≤ s.eco.filtration.duration - s.gDc)))
    ∨ (s.phase = .normal ∧ s.pumpOn = true ∧ TimersAt s ∧ s.eco.current.delay = s.eco.onD
        ∧ (s.full = true → s.onToday + res eps s ≤ s.eco.filtration.duration + s.gU)
        ∧ (s.eco.filtration.last = none ∨ s.now < s.eco.nextReset)
        ∧ (s.eco.filtration.last = none ∨ s.eco.filtration.duration < s.eco.filtration.delay)
        ∧ (s.eco.filtration.elapsed = true ∨
            (idle s + res eps s ≤ s.gJ + s.gWoff
             ∧ s.gCredit + s.eco.current.duration ≤ s.eco.filtration.duration - s.gDc)))
    ∨ (s.phase = .tank ∧ s.pumpOn = true ∧ TimersAt s ∧ s.eco.current.delay = s.eco.tankD
        ∧ (s.full = true → s.onToday + res eps s ≤ s.eco.filtration.duration + s.gU)
        ∧ (s.eco.filtration.last = none ∨ s.now < s.eco.nextReset)
        ∧ (s.eco.filtration.last = none ∨ s.eco.filtration.duration < s.eco.filtration.delay)
        ∧ (s.eco.filtration.elapsed = true ∨
            (idle s + res eps s ≤ s.gJ + s.gWoff
             ∧ s.gCredit + s.eco.onD + s.eco.current.duration ≤ s.eco.filtration.duration - s.gDc)))

structure Inv (eps : Int) (s : Loop) : Prop where
  common : Common eps s
  hWC : s.gW + (if s.phase = .waiting then 1 else 0) ≤ s.gCyc + 1
  hcur0 : 0 ≤ s.eco.current.duration
  hphase : PhaseInv eps s

/-! ### the arithmetic of a plan

`N` periods, each a pause `off` and a pool + tank phase `P`; `W` pauses and `cyc` cycles are completed, `credit = cyc * P`
is accounted for them, `Woff = W * (off + pe)` is the idle time they may have taken (`pe` = one poll + eps of overshoot per
pause), `J` the allowance for lateness.  The products are passed to the two linear cores as variables. -/

/-- all `N` periods are done (`NP = N * P ≤ credit`): their pool + tank phases cover the quota (`hNP`) -/
theorem plan_done {delay Dc Rc D N P J credit dur T NP Npe : Int}
    (hN : 1 ≤ N) (hJ : 0 ≤ J) (hNP : Rc ≤ P ∨ 2 * D - N ≤ 2 * NP) (hD : D = max 0 (delay - Dc))
    (hcred : credit ≤ dur - Dc) (h3 : 0 ≤ Npe) (h1 : NP ≤ credit) (h2 : P ≤ NP) :
    min delay (Dc + Rc) - (J + Npe + N) ≤ dur + max 0 (Rc - T) := by
  omega

/-- at most `N` pauses so far: the idle time `I` beyond `J` is what the plan left idle (`hp`, from `hNoff`) -/
theorem plan_idle {delay Dc Rc D N J dur T I Npe : Int}
    (hN : 1 ≤ N) (hD : D = max 0 (delay - Dc))
    (hp : 2 * I ≤ max 0 (2 * (Rc - D) + N) + 2 * Npe) (hi : T - (dur - Dc) ≤ J + I) :
    min delay (Dc + Rc) - (J + Npe + N) ≤ dur + max 0 (Rc - T) := by
  omega

/-- At any instant `T` after the compute (`x` = progress of the pause in progress): what is accounted plus what is left of
the day covers `min delay (Dc + Rc)` up to the slack `J + N * pe + N` of the plan. -/
theorem plan_arith {delay Dc Rc D N off P J Woff W cyc credit dur T x pe : Int} {waiting : Bool}
    (hN : 1 ≤ N) (hoff : 0 ≤ off) (hP : 0 ≤ P) (hpe : 0 ≤ pe) (hJ : 0 ≤ J)
    (hNoff : 2 * (N * off) ≤ max 0 (2 * (Rc - D) + N))
    (hNP : Rc ≤ P ∨ 2 * D - N ≤ 2 * (N * P))
    (hD : D = max 0 (delay - Dc))
    (hW : Woff = W * (off + pe)) (hC : credit = cyc * P)
    (hWC : W + (if waiting then 1 else 0) ≤ cyc + 1)
    (hidle : T - (dur - Dc) ≤ J + Woff + x)
    (hx : x ≤ (if waiting then off + pe else 0))
    (hcred : credit ≤ dur - Dc) :
    min delay (Dc + Rc) - (J + N * pe + N) ≤ dur + max 0 (Rc - T) := by
  have h3 : 0 ≤ N * pe := Int.mul_nonneg (by omega) hpe
  by_cases hc : N ≤ cyc
  · have h1 : N * P ≤ credit := hC ▸ Int.mul_le_mul_of_nonneg_right hc hP
    have h2 : 1 * P ≤ N * P := Int.mul_le_mul_of_nonneg_right hN hP
    rw [Int.one_mul] at h2
    exact plan_done hN hJ hNP hD hcred h3 h1 h2
  · have hk : W + (if waiting then 1 else 0) ≤ N := by omega
    have h1 := Int.mul_le_mul_of_nonneg_right hk (Int.add_nonneg hoff hpe)
    rw [Int.mul_add N] at h1
    refine plan_idle hN hD
      (Int.le_trans (Int.mul_le_mul_of_nonneg_left h1 (by decide)) ?_) ?_
    · generalize N * off = No at hNoff ⊢
      generalize N * pe = Npe
      omega
    · rw [Int.add_mul, ← hW]
      cases waiting
      · simp only [Bool.false_eq_true, if_false, Int.zero_mul] at hx ⊢
        omega
      · simp only [if_true, Int.one_mul] at hx ⊢
        omega

theorem slack_nonneg {eps j n : Int} (he : 0 ≤ eps) (hj : 0 ≤ j) (hn : 1 ≤ n) : 0 ≤ slackOf eps j n := by
  unfold slackOf
  have hp := cfg_poll
  have := Int.mul_nonneg (show 0 ≤ n by omega) (show 0 ≤ EcoConfig.pollDelayUs + eps by omega)
  omega

/-- A poll `j0 ≤ eps` late accounts the same time `d` on both timers: nothing at the first poll of a phase, the time since
the last poll otherwise; what it does not account was reserved by `res`. -/
theorem TimersAt.poll {s : Loop} (h : TimersAt s) {eps j0 : Int} (hj : 0 ≤ j0 ∧ j0 ≤ eps) :
    ∃ d, s.eco.current.gain (max s.now s.due + j0) 1 1 = d ∧ s.eco.filtration.gain (max s.now s.due + j0) 1 1 = d
      ∧ 0 ≤ d ∧ d ≤ EcoConfig.pollDelayUs + eps ∧ d ≤ max s.now s.due + j0 - s.now
      ∧ max s.now s.due + j0 - s.now ≤ d + res eps s
      ∧ (s.eco.filtration.last = none → d = 0 ∧ s.eco.current.duration = 0) := by
  have hpoll := cfg_poll
  rcases h with ⟨hf, hc, hz, hdue⟩ | ⟨hf, hc, hdue⟩
  · refine ⟨0, Timer.gain_none _ _ _ _ hc, Timer.gain_none _ _ _ _ hf, by omega, by omega, by omega, ?_, fun _ => ⟨rfl, hz⟩⟩
    simp only [res, hf, if_true]
    omega
  · refine ⟨max s.now s.due + j0 - s.now, Timer.gain_one _ _ hc, Timer.gain_one _ _ hf, by omega, by omega, by omega, ?_,
      fun h => ?_⟩
    · simp only [res, hf, reduceCtorEq, if_false]
      omega
    · rw [hf] at h
      cases h

theorem res_nonneg {eps : Int} (s : Loop) (he : 0 ≤ eps) : 0 ≤ res eps s := by
  unfold res
  split <;> omega

theorem Inv.polled {eps : Int} {s : Loop} (h : Inv eps s) (hk : s.phase = .waiting ∨ s.phase = .normal ∨ s.phase = .tank) :
    TimersAt s ∧ (s.eco.filtration.last = none ∨ s.now < s.eco.nextReset) := by
  have hph := h.hphase
  rcases hk with hp | hp | hp <;>
    simp only [PhaseInv, hp, reduceCtorEq, false_and, true_and, false_or, or_false] at hph <;>
    exact ⟨hph.2.1, hph.2.2.2.2.1⟩

theorem Inv.accounting {eps : Int} {s : Loop} (h : Inv eps s) (hfull : s.full = true) :
    s.eco.filtration.duration ≤ s.onToday ∧ s.onToday ≤ s.eco.filtration.duration + s.gU
      ∧ s.eco.filtration.duration ≤ s.eco.filtration.delay + EcoConfig.pollDelayUs + eps := by
  refine ⟨h.common.hacc1 hfull, ?_, h.common.hub hfull⟩
  have hcd := cfg_cd
  have heps := h.common.heps
  have hres := res_nonneg s heps
  rcases h.hphase with ⟨_, _, _, _, _, _, _, _, _, _, h⟩ | ⟨_, _, _, _, h, _⟩ | ⟨_, _, _, _, h, _⟩ | ⟨_, _, _, _, h, _⟩ <;>
    have := h hfull <;> omega

/-- At any instant `t` after the last compute: the accounted duration `dur` plus all the time left until the reset covers
`min delay (gDc + gRc)` up to the slack of the plan.  `x` is the progress of the pause in progress.  Either the quota is
reached, or `plan_arith` applies. -/
theorem Common.on_schedule {eps : Int} {s : Loop} (hc : Common eps s)
    (hWC : s.gW + (if s.phase = .waiting then 1 else 0) ≤ s.gCyc + 1) {t dur x : Int} (ht : s.now ≤ t)
    (h : s.eco.filtration.delay ≤ dur ∨
      (t - s.gTc - (dur - s.gDc) ≤ s.gJ + s.gWoff + x
        ∧ x ≤ (if s.phase = .waiting then s.eco.offD + (EcoConfig.pollDelayUs + eps) else 0)
        ∧ s.gCredit ≤ dur - s.gDc)) :
    min s.eco.filtration.delay (s.gDc + s.gRc) - slackOf eps s.gJ s.gN ≤ dur + max 0 (s.eco.nextReset - t) := by
  have hpoll := cfg_poll
  have heps := hc.heps
  rcases h with h | ⟨h1, h2, h3⟩
  · have := slack_nonneg hc.heps hc.hJ0 hc.hN
    omega
  · have hon := hc.hon
    have htank := hc.htank
    have := plan_arith (waiting := decide (s.phase = .waiting))
      hc.hN hc.hoff (by omega) (by omega) hc.hJ0 hc.hNoff hc.hNP hc.hD hc.hW hc.hC (by simpa using hWC) h1
      (by simpa using h2) h3
    have := hc.hRc
    have := hc.hNr
    have := hc.hTc
    unfold slackOf
    omega

/-- `eco_compute`: the plan has just been made, the trigger that leaves the phase is armed -/
structure Computing (eps : Int) (s : Loop) : Prop where
  hnow : s.now = s.gTc
  hdue : s.due = s.gTc + EcoConfig.computeDelayUs
  hdur : s.eco.filtration.duration = s.gDc
  hJ : s.gJ = EcoConfig.computeDelayUs + eps
  hWoff : s.gWoff = 0
  hW : s.gW = 0
  hCredit : s.gCredit = 0
  hCyc : s.gCyc = 0
  hnr : s.now < s.eco.nextReset
  hacc2 : s.full = true → s.onToday + (EcoConfig.computeDelayUs + eps) ≤ s.eco.filtration.duration + s.gU

theorem phaseInv_compute {eps : Int} {s : Loop} (hp : s.phase = .compute) : PhaseInv eps s ↔ Computing eps s := by
  simp only [PhaseInv, hp, reduceCtorEq, false_and, true_and, or_false]
  exact ⟨fun ⟨h1, h2, h3, h4, h5, h6, h7, h8, h9, h10⟩ => ⟨h1, h2, h3, h4, h5, h6, h7, h8, h9, h10⟩,
    fun ⟨h1, h2, h3, h4, h5, h6, h7, h8, h9, h10⟩ => ⟨h1, h2, h3, h4, h5, h6, h7, h8, h9, h10⟩⟩

/-- `eco_waiting`: the pump is stopped; the idle time beyond the allowances is the progress of the pause -/
structure Waiting (eps : Int) (s : Loop) : Prop where
  hpump : s.pumpOn = false
  htim : TimersAt s
  hlen : s.eco.current.delay = s.eco.offD
  hacc2 : s.full = true → s.onToday ≤ s.eco.filtration.duration + s.gU
  hnr : s.eco.filtration.last = none ∨ s.now < s.eco.nextReset
  hb : s.eco.filtration.delay ≤ s.eco.filtration.duration ∨
    (idle s + res eps s ≤ s.gJ + s.gWoff + s.eco.current.duration
      ∧ (s.eco.filtration.last = none ∨ s.eco.current.duration < s.eco.offD)
      ∧ s.gCredit ≤ s.eco.filtration.duration - s.gDc)

theorem phaseInv_waiting {eps : Int} {s : Loop} (hp : s.phase = .waiting) : PhaseInv eps s ↔ Waiting eps s := by
  simp only [PhaseInv, hp, reduceCtorEq, false_and, true_and, false_or, or_false, Timer.elapsed, decide_eq_true_eq]
  exact ⟨fun ⟨h1, h2, h3, h4, h5, h6⟩ => ⟨h1, h2, h3, h4, h5, h6⟩, fun ⟨h1, h2, h3, h4, h5, h6⟩ => ⟨h1, h2, h3, h4, h5, h6⟩⟩

/-- The invariant of a phase that runs the pump (`eco_normal`, `eco_tank`): what `PhaseInv` says of it, with `len` the length
of the phase and `base` what the cycle in progress had accounted before it. -/
structure Running (eps : Int) (s : Loop) (len base : Int) : Prop where
  hpump : s.pumpOn = true
  htim : TimersAt s
  hlen : s.eco.current.delay = len
  hacc2 : s.full = true → s.onToday + res eps s ≤ s.eco.filtration.duration + s.gU
  hnr : s.eco.filtration.last = none ∨ s.now < s.eco.nextReset
  hlt : s.eco.filtration.last = none ∨ s.eco.filtration.duration < s.eco.filtration.delay
  hb : s.eco.filtration.delay ≤ s.eco.filtration.duration ∨
    (idle s + res eps s ≤ s.gJ + s.gWoff ∧ s.gCredit + base + s.eco.current.duration ≤ s.eco.filtration.duration - s.gDc)

def RunPhase (s : Loop) (len base : Int) : Prop :=
  (s.phase = .normal ∧ len = s.eco.onD ∧ base = 0) ∨ (s.phase = .tank ∧ len = s.eco.tankD ∧ base = s.eco.onD)

theorem phaseInv_running {eps : Int} {s : Loop} {len base : Int} (hk : RunPhase s len base) :
    PhaseInv eps s ↔ Running eps s len base := by
  rcases hk with ⟨hp, rfl, rfl⟩ | ⟨hp, rfl, rfl⟩ <;>
    simp only [PhaseInv, hp, reduceCtorEq, false_and, true_and, false_or, or_false, Timer.elapsed, decide_eq_true_eq]
  · constructor
    · rintro ⟨h1, h2, h3, h4, h5, h6, h7⟩
      refine ⟨h1, h2, h3, h4, h5, h6, ?_⟩
      rw [Int.add_zero]
      exact h7
    · rintro ⟨h1, h2, h3, h4, h5, h6, h7⟩
      rw [Int.add_zero] at h7
      exact ⟨h1, h2, h3, h4, h5, h6, h7⟩
  · exact ⟨fun ⟨h1, h2, h3, h4, h5, h6, h7⟩ => ⟨h1, h2, h3, h4, h5, h6, h7⟩,
      fun ⟨h1, h2, h3, h4, h5, h6, h7⟩ => ⟨h1, h2, h3, h4, h5, h6, h7⟩⟩

/-- At any instant `t` of a polled phase up to the handling of the armed poll: what is accounted, plus what a poll at `t` would
account (the pump-on time since the last poll, `res` apart), plus all the time left until the reset covers `min delay (gDc + gRc)`
up to the slack of the plan. -/
theorem Inv.on_schedule {eps : Int} {s : Loop} (h : Inv eps s) (hk : s.phase = .waiting ∨ s.phase = .normal ∨ s.phase = .tank)
    {t : Int} (ht : s.now ≤ t ∧ t ≤ max s.now s.due + eps) :
    min s.eco.filtration.delay (s.gDc + s.gRc) - slackOf eps s.gJ s.gN
      ≤ s.eco.filtration.duration + (if s.pumpOn then max 0 (t - s.now - res eps s) else 0) + max 0 (s.eco.nextReset - t) := by
  obtain ⟨hc, hWC, hcur0, hph⟩ := h
  have hpoll := cfg_poll
  have heps := hc.heps
  have hres := res_nonneg s heps
  have hoff := hc.hoff
  rcases hk with hp | hk
  · -- eco_waiting: the pump is off, `x` is the progress of the pause
    have hw := (phaseInv_waiting hp).mp hph
    rw [hw.hpump, if_neg Bool.false_ne_true, Int.add_zero]
    refine hc.on_schedule hWC (x := s.eco.current.duration + (t - s.now) - res eps s) ht.1 (hw.hb.imp_right ?_)
    rintro ⟨hb1, hb2, hb3⟩
    refine ⟨by unfold idle at hb1; omega, ?_, hb3⟩
    rw [if_pos hp]
    unfold res at hres ⊢
    rcases hw.htim with ⟨hf, -, hz, hdue⟩ | ⟨hf, -, hdue⟩
    · rw [if_pos hf]
      omega
    · rw [if_neg (by rw [hf]; exact fun h => nomatch h)]
      rcases hb2 with hb2 | hb2
      · rw [hf] at hb2
        cases hb2
      · omega
  · -- eco_normal, eco_tank: the pump runs
    obtain ⟨len, base, hbase, hr⟩ : ∃ len base, 0 ≤ base ∧ Running eps s len base := by
      rcases hk with hp | hp
      · exact ⟨_, _, Int.le_refl 0, (phaseInv_running (Or.inl ⟨hp, rfl, rfl⟩)).mp hph⟩
      · exact ⟨_, _, Int.le_of_lt hc.hon, (phaseInv_running (Or.inr ⟨hp, rfl, rfl⟩)).mp hph⟩
    have hnw : ¬ s.phase = .waiting := by rcases hk with hp | hp <;> rw [hp] <;> exact Phase.noConfusion
    rw [hr.hpump, if_pos rfl]
    refine hc.on_schedule hWC (x := 0) ht.1 ?_
    rcases hr.hb with hb | ⟨hb1, hb3⟩
    · exact Or.inl (by omega)
    · exact Or.inr ⟨by unfold idle at hb1; omega, by rw [if_neg hnw]; exact Int.le_refl 0, by omega⟩

end Poupool.Eco
