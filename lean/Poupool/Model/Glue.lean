import Poupool.Model.Actor
/-!
  Master / slave glue: how a fact about the master ("the last thing I told X was `halt`, or X told me it is
  halted") becomes a fact about the slave X once X's inbox has been served (FIFO inboxes, pykka).

  * the slave is ANY generated per-actor model `D` (its state evolves by `step D`);
  * its inbox is a FIFO list of messages tagged with their origin: the master, or anybody else (the dispatcher,
    the slave's own timers and self-tells, third actors);
  * the master's knowledge is the ghost bit: it is set when the master tells `halt` or when X answers
    `is_halt() = True` (pykka answers a query only after everything queued before it has been processed, and the
    master, being blocked in `get()`, has nothing else in flight), cleared when the master tells anything else
    or sits in a phase (`allowed`) in which X may legitimately start on somebody else's request;
  * messages that can take X out of its halt phase (`isStart`) and do not come from the master are guarded by a
    synchronous question to the master: they are only effective while the master is in an `allowed` phase.
-/
namespace Poupool.Glue
open Poupool

structure GSt where
  x : St
  inbox : List (Bool × Msg)      -- (from the master?, message); the head is served next
  ghost : Bool
  allowed : Bool
  deriving Repr

structure Spec where
  D : ActorDesc
  isHaltMsg : Msg → Bool          -- the master's messages that send X to its halt phase
  isHalt : St → Bool
  isStart : Msg → Bool

def noMaster (l : List (Bool × Msg)) : Prop := ∀ e ∈ l, e.1 = false

inductive GStep (S : Spec) : GSt → GSt → Prop
  /-- master: `X.halt.defer()`; it may be entering an allowed phase in the same handler (`a'`) -/
  | mHalt (g : GSt) (m : Msg) (a' : Bool) (hh : S.isHaltMsg m = true) (hm : m ∈ allMsgs S.D) :
      GStep S g { g with inbox := g.inbox ++ [(true, m)], ghost := !a', allowed := a' }
  /-- master: `X.is_halt().get()` answered True -/
  | mObserve (g : GSt) (a' : Bool) (h1 : noMaster g.inbox) (h2 : S.isHalt g.x = true) :
      GStep S g { g with ghost := !a', allowed := a' }
  /-- master tells X anything else -/
  | mTell (g : GSt) (m : Msg) (a' : Bool) (hm : m ∈ allMsgs S.D) :
      GStep S g { g with inbox := g.inbox ++ [(true, m)], ghost := false, allowed := a' }
  /-- master changes phase without talking to X -/
  | mMove (g : GSt) (a' : Bool) :
      GStep S g { g with ghost := g.ghost && !a', allowed := a' }
  /-- anybody else queues a message for X -/
  | other (g : GSt) (m : Msg) (hm : m ∈ allMsgs S.D) :
      GStep S g { g with inbox := g.inbox ++ [(false, m)] }
  /-- X serves the head of its inbox; a start message that is not the master's is refused (its guard asks the
      master) unless the master is in an allowed phase -/
  | deliver (g : GSt) (e : Bool × Msg) (rest : List (Bool × Msg)) (s' : St)
      (h : g.inbox = e :: rest) (hm : e.2 ∈ allMsgs S.D)
      (hs : if e.1 = false ∧ S.isStart e.2 = true ∧ g.allowed = false then s' = g.x else s' ∈ step S.D g.x e.2) :
      GStep S g { g with x := s', inbox := rest }

inductive GReach (S : Spec) : GSt → Prop
  | init (a : Bool) : GReach S { x := initSt S.D, inbox := [], ghost := false, allowed := a }
  | step {g g' : GSt} : GReach S g → GStep S g g' → GReach S g'

theorem greach_x (S : Spec) {g : GSt} (h : GReach S g) : Reach S.D g.x := by
  induction h with
  | init a => exact Reach.init
  | @step g0 g1 _ hs ih =>
      cases hs with
      | mHalt | mObserve | mTell | mMove | other => exact ih
      | deliver e rest s' h hm hs =>
          by_cases hc : e.1 = false ∧ S.isStart e.2 = true ∧ g0.allowed = false
          · rw [if_pos hc] at hs
            subst hs
            exact ih
          · rw [if_neg hc] at hs
            exact Reach.step e.2 ih hm hs

/-- Hypotheses on the slave, both decidable on its certificate:
    H1 processing `halt` always ends in the halt phase;
    H2 in the halt phase no message other than a start message leaves the halt phase. -/
structure SlaveOK (S : Spec) : Prop where
  h1 : ∀ s s' m, Reach S.D s → S.isHaltMsg m = true → s' ∈ step S.D s m → S.isHalt s' = true
  h2 : ∀ s s' m, Reach S.D s → S.isHalt s = true → m ∈ allMsgs S.D → S.isStart m = false →
        s' ∈ step S.D s m → S.isHalt s' = true

/-! ## what the inbox will do to "X is halted"

  The invariant of the pair, here and in `Proofs/ComposeInv.lean`, is about the slave and its inbox alone: under the
  master's knowledge bit `a`, X is halted once it has served what is in its inbox now (`Settles`).  Each kind of step
  of the slave side has its lemma; H1/H2 are used in `Settles.serve` only. -/

/-- what serving one inbox entry does to "X is halted", as far as the MASTER's messages are concerned: a halt-class
    message establishes it, a start message destroys it, anything else keeps it -/
def upd (S : Spec) (h : Bool) (e : Bool × Msg) : Bool :=
  if e.1 then (if S.isHaltMsg e.2 then true else if S.isStart e.2 then false else h) else h

def settle (S : Spec) (h : Bool) (inbox : List (Bool × Msg)) : Bool := inbox.foldl (upd S) h

def Settles (S : Spec) (a : Bool) (inbox : List (Bool × Msg)) (x : St) : Prop :=
  a = true → settle S (S.isHalt x) inbox = true

section
variable {S : Spec} {a : Bool} {l rest : List (Bool × Msg)} {x x' : St} {m : Msg}

theorem upd_master (h : Bool) : upd S h (true, m) = if S.isHaltMsg m then true else if S.isStart m then false else h := rfl

theorem upd_other (h : Bool) : upd S h (false, m) = h := rfl

theorem settle_append (h : Bool) (e : Bool × Msg) : settle S h (l ++ [e]) = upd S (settle S h l) e := by
  simp [settle, List.foldl_append]

theorem settle_noMaster (h : Bool) (hn : noMaster l) : settle S h l = h := by
  induction l generalizing h with
  | nil => rfl
  | cons e rest ih =>
      obtain ⟨b, m⟩ := e
      cases hn (b, m) List.mem_cons_self
      exact ih h fun e' he' => hn e' (List.mem_cons_of_mem _ he')

theorem upd_mono {h h' : Bool} (hh : h = true → h' = true) (e : Bool × Msg) :
    upd S h e = true → upd S h' e = true := by
  obtain ⟨b, m⟩ := e
  cases b
  · rw [upd_other, upd_other]
    exact hh
  · rw [upd_master, upd_master]
    split
    · exact id
    · split
      · exact id
      · exact hh

theorem settle_mono {h h' : Bool} (hh : h = true → h' = true) : settle S h l = true → settle S h' l = true := by
  induction l generalizing h h' with
  | nil => exact hh
  | cons e rest ih => exact ih (upd_mono hh e)

namespace Settles

theorem weaken {a' : Bool} (h : Settles S a l x) (ha : a' = true → a = true) : Settles S a' l x :=
  fun h' => h (ha h')

/-- somebody else queues a message -/
theorem other (h : Settles S a l x) : Settles S a (l ++ [(false, m)]) x := fun ha => by
  rw [settle_append]
  exact h ha

/-- the master tells `m`: its knowledge changes exactly as serving `m` will change X -/
theorem tell (h : Settles S a l x) : Settles S (upd S a (true, m)) (l ++ [(true, m)]) x := fun ha => by
  rw [settle_append]
  exact upd_mono h _ ha

/-- the master sees X halted with nothing of its own in X's inbox -/
theorem observe (hn : noMaster l) (hx : S.isHalt x = true) : Settles S a l x := fun _ => by
  rw [settle_noMaster _ hn]
  exact hx

/-- a start message of somebody else is refused -/
theorem refuse (h : Settles S a ((false, m) :: rest) x) : Settles S a rest x := h

/-- X serves its next message, not a start message of somebody else -/
theorem serve (ok : SlaveOK S) (hx : Reach S.D x) (hm : m ∈ allMsgs S.D) (hs : x' ∈ step S.D x m) {b : Bool}
    (hns : ¬(b = false ∧ S.isStart m = true)) (h : Settles S a ((b, m) :: rest) x) : Settles S a rest x' :=
  fun ha => by
    refine settle_mono ?_ (h ha)
    cases b with
    | true =>
        rw [upd_master]
        cases hh : S.isHaltMsg m with
        | true => exact fun _ => ok.h1 _ _ _ hx hh hs
        | false =>
            cases hst : S.isStart m with
            | true => nofun
            | false => exact fun hxh => ok.h2 _ _ _ hx hxh hm hst hs
    | false => exact fun hxh => ok.h2 _ _ _ hx hxh hm (Bool.eq_false_iff.2 fun hst => hns ⟨rfl, hst⟩) hs

end Settles
end

def Inv (S : Spec) (g : GSt) : Prop := (g.ghost = true → g.allowed = false) ∧ Settles S g.ghost g.inbox g.x

theorem inv_of_reach (S : Spec) (ok : SlaveOK S) {g : GSt} (h : GReach S g) : Inv S g := by
  induction h with
  | init a => exact ⟨nofun, nofun⟩
  | @step g g' hr hs ih =>
      have hx := greach_x S hr
      obtain ⟨ia, ig⟩ := ih
      cases hs with
      | mHalt m a' hh hm => exact ⟨by simp, ig.tell.weaken fun _ => by rw [upd_master, hh]; rfl⟩
      | mObserve a' h1 h2 => exact ⟨by simp, .observe h1 h2⟩
      | mTell m a' hm => exact ⟨nofun, nofun⟩
      | mMove a' => exact ⟨by simp, ig.weaken fun h => (Bool.and_eq_true_iff.1 h).1⟩
      | other m hm => exact ⟨ia, ig.other⟩
      | deliver e rest s' hin hm hs =>
          refine ⟨ia, fun hg => ?_⟩
          obtain ⟨b, m⟩ := e
          rw [hin] at ig
          by_cases hc : b = false ∧ S.isStart m = true ∧ g.allowed = false
          · -- a foreign start message while the master is not in an allowed phase: refused
            rw [if_pos hc] at hs
            obtain ⟨rfl, _⟩ := hc
            exact hs ▸ ig.refuse hg
          · rw [if_neg hc] at hs
            exact ig.serve ok hx hm hs (fun ⟨hb, hst⟩ => hc ⟨hb, hst, ia hg⟩) hg

/-- **Glue theorem.** In every reachable state of the pair, for every interleaving: if the master knows X to be
    halted and none of the master's messages is still waiting in X's inbox, then X is in its halt phase. -/
theorem halted_when_served (S : Spec) (ok : SlaveOK S) {g : GSt} (h : GReach S g)
    (hg : g.ghost = true) (hserved : noMaster g.inbox) : S.isHalt g.x = true := by
  rw [← settle_noMaster (S := S) (S.isHalt g.x) hserved]
  exact (inv_of_reach S ok h).2 hg

end Poupool.Glue
