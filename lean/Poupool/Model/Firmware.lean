/-
Executable model of the cover firmware `arduino/cover/cover.ino` (property C19).

* Constants, end-point comparison operators and the serial command table come from
  `Poupool/Generated/FirmwareConst.lean`, regenerated from the sketch on every run.
* `long` is 32 bit on the AVR: positions are `Int`s kept in the int32 range by `wrap32`, applied after every signed
  operation of the sketch (C++ signed overflow is undefined behaviour; the model and the host build, compiled with
  `-fwrapv`, wrap; the theorems state the no-overflow preconditions where the value matters).
* `unsigned long` times are `Nat` with truncating subtraction: equal to the 32-bit modular arithmetic of the sketch as
  long as `millis()` has not wrapped (49.7 days) – noted, not modelled.  `m_do_stop_time = 0` doubles as "no stop
  pending" in the sketch, hence a stop at `millis() = 0` is never saved – the model does the same.
* Interrupts: the encoder ISR runs between loop iterations (`Ev.pulse`) and inside the `delay(100)` of
  `process_direction` (`Ev.delayPulses n`, consumed by the next delay; pulse k of n fires at t0 + k*100/(n+1)), which
  is where pre-emption matters (a sketch that reads the volatile `m_direction` again after the delay loses a STOP
  raised by the ISR; see `processDirection`).  `delay(100)` advances
  the clock by 100 ms (the loop-local `now` was read before).  Pre-emption between other statements is not modelled.
* Buttons: the InputDebounce library is not part of the repository; its callbacks are events (`Btn`), delivered where
  `button.process(now)` stands in `loop()`.
* Ghost fields (`oobWrite`, `oobRead`, `nDispatch`, `nEmergency`) are not in the sketch; they record what the
  theorems talk about.
-/
import Poupool.Generated.FirmwareConst

namespace Poupool.Firmware
open Poupool.FirmwareConst

inductive Dir | opn | cls | stop
  deriving DecidableEq, Repr, Inhabited

inductive Lim | opn | cls | none
  deriving DecidableEq, Repr, Inhabited

/-- button callbacks of the sketch's `Button` class -/
inductive Btn | openPressed | closePressed | released | saveOpenPressed | saveClosePressed | saveReleased
  deriving DecidableEq, Repr

/-- two's complement wrap to int32 -/
def wrap32 (x : Int) : Int := (x + 2147483648) % 4294967296 - 2147483648

structure St where
  -- ReadBuffer<char, S>
  idx : Nat
  buf : List Nat
  oobWrite : Bool   -- ghost: a write `m_buffer[i]` with `i ≥ S` happened
  oobRead : Bool    -- ghost: strcmp / println ran over a buffer without NUL
  -- Cover
  pos : Int
  close : Int
  opn : Int
  dir : Dir
  run : Dir
  lim : Lim
  prevPos : Int
  prevTime : Nat
  doStop : Nat
  prevDir : Dir
  -- pins (true = HIGH)
  pinOpen : Bool
  pinClose : Bool
  -- Water
  water : Nat
  -- statics of the two ISRs
  isrLast : Nat
  wisrLast : Nat
  -- millis()
  clk : Nat
  -- EEPROM block 0
  eePos : Int
  eeClose : Int
  eeOpen : Int
  -- encoder interrupts that will fire inside the next delay()
  dpulses : Nat
  -- Serial output (bytes, oldest first)
  out : List Nat
  nDispatch : Nat    -- ghost: number of command dispatches so far
  nEmergency : Nat   -- ghost: number of emergency_stop() calls so far
  lastCmd : List Nat -- ghost: the C string `strcmp` saw at the last dispatch
  deriving Repr

/-- state after power-up and `setup()` with the EEPROM block holding `(p, c, o)` -/
def init (p c o : Int) : St :=
  { idx := 0, buf := List.replicate bufSize 0, oobWrite := false, oobRead := false,
    pos := p, close := c, opn := o, dir := .stop, run := .stop, lim := .none,
    prevPos := 0, prevTime := 0, doStop := 0, prevDir := .stop, pinOpen := false, pinClose := false,
    water := 0, isrLast := 0, wisrLast := 0, clk := 0, eePos := p, eeClose := c, eeOpen := o,
    dpulses := 0, out := [], nDispatch := 0, nEmergency := 0, lastCmd := [] }

/-! ### Serial printing -/

def decAux : Nat → Nat → List Nat → List Nat
  | 0, _, acc => acc
  | fuel + 1, n, acc => if n < 10 then (48 + n) :: acc else decAux fuel (n / 10) ((48 + n % 10) :: acc)

/-- `Print::print(unsigned long)` -/
def decNat (n : Nat) : List Nat := decAux (n + 1) n []

/-- `Print::print(long)` -/
def decInt (v : Int) : List Nat := if v < 0 then 45 :: decNat (-v).toNat else decNat v.toNat

def crlf : List Nat := [13, 10]

def emit (s : St) (b : List Nat) : St := { s with out := s.out ++ b }
def emitLn (s : St) (b : List Nat) : St := { s with out := s.out ++ (b ++ crlf) }

/-! ### ReadBuffer -/

/-- `m_buffer[i] = v` -/
def bufWrite (s : St) (i v : Nat) : St :=
  if i < bufSize then { s with buf := s.buf.set i v } else { s with oobWrite := true }

/-- `m_buffer[m_position++] = v` -/
def bufStore (s : St) (v : Nat) : St := { bufWrite s s.idx v with idx := s.idx + 1 }

/-- `ReadBuffer::add`; the Boolean is the return value -/
def bufAdd (s : St) (b : Nat) : St × Bool :=
  if b = 13 then (s, false)
  else if s.idx = bufFullAt then (bufStore s 0, true)
  else if s.idx ≥ bufIgnoreAt then (s, true)
  else if b = 10 then (bufStore s 0, true)
  else (bufStore s b, false)

/-- `ReadBuffer::clear` -/
def bufClear (s : St) : St := { s with buf := List.replicate bufSize 0, idx := 0 }

/-- the C string in the buffer -/
def cstr (s : St) : List Nat := s.buf.takeWhile (fun x => x != 0)

/-! ### Cover -/

/-- `get_position_percentage` (before the conversion to `byte`): all arithmetic in int32 with wrap-around, C++
truncating division, then the `constrain` macro. -/
def pctLong (s : St) : Int :=
  let diff := wrap32 (s.opn - s.close)
  if diff = 0 then 0
  else
    let q := wrap32 (Int.tdiv (wrap32 (pctMul * wrap32 (s.pos - s.close))) diff)
    if q < pctLo then pctLo else if q > pctHi then pctHi else q

/-- `get_position_percentage` as the `byte` it returns -/
def pct (s : St) : Nat := (pctLong s % 256).toNat

def setDirection (s : St) : Dir → St
  | .opn => if s.lim ≠ .none ∨ s.pos < s.opn then { s with dir := .opn } else s
  | .cls => if s.lim ≠ .none ∨ s.pos > s.close then { s with dir := .cls } else s
  | .stop => { s with dir := .stop }

def setLimit (s : St) : Dir → St
  | .opn => { s with lim := .opn }
  | .cls => { s with lim := .cls }
  | .stop =>
    let s1 : St := match s.lim with
      | .opn => { s with opn := s.pos }
      | .cls => { s with close := s.pos }
      | .none => s
    { s1 with lim := .none, eePos := s1.pos, eeClose := s1.close, eeOpen := s1.opn }

/-- the end-point tests of `step()` with the operators read from the sketch -/
def atOpenEnd (p o : Int) : Bool :=
  if stepOpenStrict then decide (p > wrap32 (o + stepOpenOffset)) else decide (p ≥ wrap32 (o + stepOpenOffset))
def atCloseEnd (p c : Int) : Bool :=
  if stepCloseStrict then decide (p < wrap32 (c + stepCloseOffset)) else decide (p ≤ wrap32 (c + stepCloseOffset))

/-- `Cover::step` (called by the ISR) -/
def stepCover (s : St) : St :=
  match s.run with
  | .opn =>
    let p := wrap32 (s.pos + 1)
    if s.lim = .none ∧ atOpenEnd p s.opn = true then { s with pos := p, dir := .stop } else { s with pos := p }
  | .cls =>
    let p := wrap32 (s.pos - 1)
    if s.lim = .none ∧ atCloseEnd p s.close = true then { s with pos := p, dir := .stop } else { s with pos := p }
  | .stop => s

/-- `cover_isr` at the current `millis()` -/
def coverIsr (s : St) : St :=
  let s1 := if s.clk - s.isrLast > coverDebounceMs then stepCover s else s
  { s1 with isrLast := s.clk }

/-- `water_isr` -/
def waterIsr (s : St) : St :=
  let s1 : St := if s.clk - s.wisrLast > waterDebounceMs then { s with water := (s.water + 1) % 4294967296 } else s
  { s1 with wisrLast := s.clk }

/-- pulse `k+1` of `n` inside a delay that started at `t0` -/
def delayPulse (t0 n : Nat) (s : St) (k : Nat) : St :=
  coverIsr { s with clk := t0 + ((k + 1) * relayDelayMs) / (n + 1) }

/-- `delay(relayDelayMs)` with `s.dpulses` encoder interrupts firing inside it -/
def delayWithPulses (s : St) : St :=
  let t0 := s.clk
  let n := s.dpulses
  let s1 := (List.range n).foldl (delayPulse t0 n) { s with dpulses := 0 }
  { s1 with clk := t0 + relayDelayMs }

/-- `process_direction(now)`.  The direction is read at the top; what is stored in `m_previous_direction` at the end is
that value (`prevDirRereadsVolatile = false`: `m_previous_direction = direction`, as the sketch has it) or the volatile
`m_direction` read again after the delay (`true`: `m_previous_direction = m_direction`, which loses a STOP raised by the
ISR during the delay) – read from the source by the translator. -/
def processDirection (s : St) (now : Nat) : St :=
  if s.dir ≠ s.prevDir then
    let s1 : St := match s.dir with
      | .opn =>
        let a := delayWithPulses { s with run := .opn, pinClose := true }
        { a with pinOpen := false, prevPos := a.pos, prevTime := now, doStop := 0 }
      | .cls =>
        let a := delayWithPulses { s with run := .cls, pinOpen := true }
        { a with pinClose := false, prevPos := a.pos, prevTime := now, doStop := 0 }
      | .stop => { s with pinClose := false, pinOpen := false, doStop := now }
    { s1 with prevDir := if prevDirRereadsVolatile then s1.dir else s.dir }
  else s

def emergencyStop (s : St) : St :=
  emitLn (emitLn { s with dir := .stop, nEmergency := s.nEmergency + 1 } emergencyText) emergencyTerminator

/-- the Arduino `abs` macro on a long -/
def absC (x : Int) : Int := if x > 0 then x else wrap32 (-x)

def outsideEnvelope (s : St) : Bool :=
  decide (s.pos < wrap32 (s.close - maxPulseMargin)) || decide (s.pos > wrap32 (s.opn + maxPulseMargin))

/-- the rotation / pulse check of `ensure_consistency` -/
def stallCheck (s : St) (now : Nat) : St :=
  if now - s.prevTime > stallWindowMs then
    let s1 := if absC (wrap32 (s.pos - s.prevPos)) < stallMinPulses then emergencyStop s else s
    { s1 with prevPos := s.pos, prevTime := now }
  else s

/-- the position consistency check of `ensure_consistency` -/
def envelopeCheck (s : St) : St :=
  if s.lim = .none then (if outsideEnvelope s = true then emergencyStop s else s) else s

def ensureConsistency (s : St) (now : Nat) : St :=
  if s.dir ≠ .stop then envelopeCheck (stallCheck s now) else s

def processStop (s : St) (now : Nat) : St :=
  if s.doStop ≠ 0 then
    if now - s.doStop > maxRunningMarginMs then
      { s with doStop := 0, run := .stop, eePos := s.pos, eeClose := s.close, eeOpen := s.opn }
    else s
  else s

/-! ### Command dispatch -/

def fieldVal (s : St) : Field → Int
  | .fPosition => s.pos
  | .fOpen => s.opn
  | .fClose => s.close

def debugPrint (s : St) : St :=
  debugFields.foldl (fun s lf => emitLn (emit s lf.1) (decInt (fieldVal s lf.2))) s

def runOp (s : St) : Op → St
  | .print b => emit s b
  | .println b => emitLn s b
  | .printlnPct => emitLn s (decNat (pct s))
  | .printlnWater => emitLn s (decNat s.water)
  | .printlnBuf => emitLn s (cstr s)
  | .setOpen => setDirection s .opn
  | .setClose => setDirection s .cls
  | .setStop => setDirection s .stop
  | .debug => debugPrint s
  | .reset => { s with pos := 0, close := 0, opn := 0 }

/-- the `strcmp` chain -/
def findCmd (c : List Nat) : List (List Nat × List Op) → List Op
  | [] => errorOps
  | (n, ops) :: r => if c = n then ops else findCmd c r

/-- body of `if (buffer.add(...)) { ... }` -/
def dispatchCore (s : St) : St :=
  let s1 := (findCmd (cstr s) commands).foldl runOp s
  let s2 := emitLn s1 terminator
  { bufClear s2 with nDispatch := s2.nDispatch + 1, lastCmd := cstr s }

/-- the same, recording (ghost) whether `strcmp` found a NUL inside the buffer -/
def dispatch (s : St) : St :=
  dispatchCore (if s.buf.any (fun x => x == 0) then s else { s with oobRead := true })

/-- `if (Serial.available() > 0) { ... }` with byte `b` available -/
def serialStep (s : St) (b : Nat) : St :=
  if (bufAdd s b).2 = true then dispatch (bufAdd s b).1 else (bufAdd s b).1

def button (s : St) : Btn → St
  | .openPressed => setDirection s .opn
  | .closePressed => setDirection s .cls
  | .released => setDirection s .stop
  | .saveOpenPressed => setLimit s .opn
  | .saveClosePressed => setLimit s .cls
  | .saveReleased => setLimit s .stop

/-- everything in `loop()` after the serial part, at `now = millis()` -/
def actions (s : St) (btn : Option Btn) : St :=
  let now := s.clk
  let s1 := match btn with
    | none => s
    | some k => button s k
  processStop (ensureConsistency (processDirection s1 now) now) now

/-- one iteration of `loop()` -/
def loopIter (s : St) (byte : Option Nat) (btn : Option Btn) : St :=
  match byte with
  | none => actions s btn
  | some b => actions (serialStep s b) btn

/-! ### Events (same line protocol as the host build of the sketch) -/

inductive Ev
  | byte (b : Nat)          -- `B b`
  | tick (ms : Nat)         -- `L ms`
  | adv (ms : Nat)          -- `T ms`
  | pulse                   -- `P`
  | wpulse                  -- `W`
  | delayPulses (n : Nat)   -- `D n`
  | btn (k : Btn)           -- `K pin kind`
  | query                   -- `Q`
  deriving Repr

def step (s : St) : Ev → St
  | .byte b => loopIter s (some b) none
  | .tick ms => loopIter { s with clk := s.clk + ms } none none
  | .adv ms => { s with clk := s.clk + ms }
  | .pulse => coverIsr s
  | .wpulse => waterIsr s
  | .delayPulses n => { s with dpulses := n }
  | .btn k => loopIter s none (some k)
  | .query => s

def run (s : St) (evs : List Ev) : St := evs.foldl step s

/-! ### The Python side: `ArduinoDevice.__send` (controller/device.py) over a `TextIOWrapper` in universal-newline
mode.  `pending` holds the bytes the firmware has printed and the driver has not read yet. -/

/-- universal newlines: `\r\n` and a lone `\r` become `\n` -/
def pyNewlines : List Nat → List Nat
  | [] => []
  | 13 :: 10 :: r => 10 :: pyNewlines r
  | 13 :: r => 10 :: pyNewlines r
  | c :: r => c :: pyNewlines r

/-- `readline()`: up to and including the first `\n`, or everything (a timeout of the serial port ends the line) -/
def pyReadline : List Nat → List Nat × List Nat
  | [] => ([], [])
  | c :: r => if c = 10 then ([10], r) else ((c :: (pyReadline r).1), (pyReadline r).2)

def pyIsSpace (c : Nat) : Bool := c = 32 || (9 ≤ c && c ≤ 13) || (28 ≤ c && c ≤ 31) || c = 133 || c = 160

def pyStrip (l : List Nat) : List Nat := ((l.dropWhile pyIsSpace).reverse.dropWhile pyIsSpace).reverse

/-- the flush loop: `read = readline(); while read.strip() != "": read = readline()` -/
def pyFlush : Nat → List Nat → List Nat
  | 0, p => p
  | fuel + 1, p => if pyStrip (pyReadline p).1 = [] then (pyReadline p).2 else pyFlush fuel (pyReadline p).2

/-- the receive loop; returns (last line kept, the line that ended the loop, rest) -/
def pyReceive : Nat → Option (List Nat) → List Nat → List Nat → Option (List Nat) × List Nat × List Nat
  | 0, resp, read, p => (resp, read, p)
  | fuel + 1, resp, read, p =>
    if [42, 42, 42].isPrefixOf read then (resp, read, p)
    else pyReceive fuel (some (pyStrip read)) (pyReadline p).1 (pyReadline p).2

/-- what `__send(value)` returns, given the text the driver sees after having written the command -/
def pyParse (value : List Nat) (p : List Nat) : Option (List Nat) × List Nat :=
  let r := pyReceive 20 none (pyReadline p).1 (pyReadline p).2
  match r.1 with
  | none => (none, r.2.2)     -- `None.startswith` raises, caught, reconnect, `return None`
  | some resp => if pyStrip r.2.1 = [42, 42, 42] ∧ value.isPrefixOf resp = true then (some resp, r.2.2) else (none, r.2.2)

/-- `str.replace(pat, "")` -/
def pyRemoveAll (pat : List Nat) : Nat → List Nat → List Nat
  | 0, l => l
  | _, [] => []
  | fuel + 1, c :: r =>
    if pat ≠ [] ∧ pat.isPrefixOf (c :: r) = true then pyRemoveAll pat fuel ((c :: r).drop pat.length)
    else c :: pyRemoveAll pat fuel r

def pyDigits : List Nat → Option Nat → Option Nat
  | [], acc => acc
  | c :: r, acc => if 48 ≤ c ∧ c ≤ 57 then pyDigits r (some (acc.getD 0 * 10 + (c - 48))) else none

/-- `int(s)` for plain decimal text with optional sign and surrounding white space (no underscores) -/
def pyInt (l : List Nat) : Option Int :=
  match pyStrip l with
  | [] => none
  | c :: r =>
    if c = 45 then (pyDigits r none).map (fun n => -(n : Int))
    else if c = 43 then (pyDigits r none).map (fun n => (n : Int))
    else (pyDigits (c :: r) none).map (fun n => (n : Int))

/-- `int(value.replace(cmd + " ", "")) if value else None` (cover_position / water_counter) -/
def pyValue (cmd : List Nat) (resp : Option (List Nat)) : Option Int :=
  match resp with
  | none => none
  | some [] => none
  | some r => pyInt (pyRemoveAll (cmd ++ [32]) (r.length + 1) r)

/-- feed the bytes of `cmd ++ "\n"`, one loop iteration each -/
def sendBytes (s : St) (cmd : List Nat) : St := (cmd ++ [10]).foldl (fun s b => step s (.byte b)) s

/-- `ArduinoDevice.__send(cmd)` against the firmware in state `s` with unread text `pending`
(already newline-translated): (firmware state with `out` emptied, reply, unread text afterwards) -/
def driverSend (s : St) (pending : List Nat) (cmd : List Nat) : St × Option (List Nat) × List Nat :=
  let p1 := pyFlush (pending.length + 1) pending
  let s1 := sendBytes { s with out := [] } cmd
  let r := pyParse cmd (p1 ++ pyNewlines s1.out)
  ({ s1 with out := [] }, r.1, r.2)

end Poupool.Firmware
