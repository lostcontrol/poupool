/-!
  Model of poupool.py's supervision loop and shutdown path (C18), and of SwimPumpDevice (controller/device.py).

  `World`: which outputs are energised, whether controllers are still running (only a running controller can energise
  an output), whether the cover motor is commanded.  The `finally:` block is a list of operations read from the source
  (Generated/Main.lean); `offAll` switches every REGISTERED pump/valve off.
-/
namespace Poupool.Main

structure World where
  on : List String            -- energised outputs
  actorsRunning : Bool
  coverMoving : Bool
  deriving Repr

inductive Op
  | stopAll                   -- pykka.ActorRegistry.stop_all() (blocking)
  | offAll (pumps valves : Bool)
  | stopDevices
  | cleanup
  | other
  deriving Repr, DecidableEq

def parseOp (s : String) : Op :=
  if s == "stopAll" then .stopAll
  else if s == "offAll:PV" then .offAll true true
  else if s == "offAll:P" then .offAll true false
  else if s == "offAll:V" then .offAll false true
  else if s == "stopDevices" then .stopDevices
  else if s == "cleanup" then .cleanup
  else .other

/-- one step of the environment between two shutdown operations: while controllers run they may energise anything -/
def mayEnergise (w : World) (extra : List String) : World :=
  if w.actorsRunning then { w with on := w.on ++ extra, coverMoving := true } else w

def applyOp (pumps valves : List String) (w : World) : Op → World
  | .stopAll => { w with actorsRunning := false }
  | .offAll p v =>
      let names := (if p then pumps else []) ++ (if v then valves else [])
      { w with on := w.on.filter fun n => !names.contains n }
  | .stopDevices => { w with coverMoving := false }
  | .cleanup => w
  | .other => w

/-- the shutdown path with an adversarial environment step before every operation -/
def shutdown (pumps valves : List String) (ops : List Op) (env : List (List String)) (w : World) : World :=
  match ops, env with
  | [], _ => w
  | op :: rest, [] => shutdown pumps valves rest [] (applyOp pumps valves w op)
  | op :: rest, e :: es => shutdown pumps valves rest es (applyOp pumps valves (mayEnergise w e) op)

/-- the shape the proof needs: stop_all first, then off() for pumps and valves, then stop() of the devices -/
def opsOK (ops : List Op) : Bool :=
  match ops with
  | .stopAll :: .offAll true true :: .stopDevices :: _ => true
  | _ => false

theorem mayEnergise_stopped {w : World} (h : w.actorsRunning = false) (e : List String) : mayEnergise w e = w := by
  simp [mayEnergise, h]

/-- the first operation runs in some world, the rest on the rest of the environment -/
theorem shutdown_cons (pumps valves : List String) (op : Op) (rest : List Op) (env : List (List String)) (w : World) :
    ∃ w0, shutdown pumps valves (op :: rest) env w = shutdown pumps valves rest env.tail (applyOp pumps valves w0 op) := by
  cases env with
  | nil => exact ⟨w, rfl⟩
  | cons e es => exact ⟨mayEnergise w e, rfl⟩

/-- once the controllers are stopped the environment has no effect -/
theorem shutdown_cons_stopped (pumps valves : List String) (op : Op) (rest : List Op) (env : List (List String))
    {w : World} (h : w.actorsRunning = false) :
    shutdown pumps valves (op :: rest) env w = shutdown pumps valves rest env.tail (applyOp pumps valves w op) := by
  cases env with
  | nil => rfl
  | cons e es => rw [shutdown, mayEnergise_stopped h, List.tail_cons]

/-- what the rest of the block cannot undo -/
structure Safe (outputs : List String) (w : World) : Prop where
  stopped : w.actorsRunning = false
  off : ∀ n ∈ outputs, n ∉ w.on
  cover : w.coverMoving = false

theorem Safe.shutdown {outputs pumps valves : List String} (ops : List Op) :
    ∀ (env : List (List String)) {w : World}, Safe outputs w → Safe outputs (shutdown pumps valves ops env w) := by
  induction ops with
  | nil => exact fun _ _ h => h
  | cons op rest ih =>
      intro env w h
      rw [shutdown_cons_stopped _ _ _ _ _ h.stopped]
      refine ih _ ?_
      cases op with
      | stopAll => exact ⟨rfl, h.off, h.cover⟩
      | offAll p v => exact ⟨h.stopped, fun n hn hmem => h.off n hn (List.mem_filter.mp hmem).1, h.cover⟩
      | stopDevices => exact ⟨h.stopped, h.off, rfl⟩
      | cleanup | other => exact h

theorem shutdown_all_off (pumps valves : List String) (ops : List Op) (hops : opsOK ops = true)
    (env : List (List String)) (w : World) (outputs : List String)
    (hreg : ∀ n ∈ outputs, n ∈ pumps ∨ n ∈ valves) :
    let w' := shutdown pumps valves ops env w
    (∀ n ∈ outputs, n ∉ w'.on) ∧ w'.coverMoving = false ∧ w'.actorsRunning = false := by
  match ops, hops with
  | .stopAll :: .offAll true true :: .stopDevices :: rest, _ =>
    intro w'
    -- `stop_all` comes first: from then on only the operations act, and `off()` reaches every registered output
    obtain ⟨w0, hs⟩ := shutdown_cons pumps valves .stopAll (.offAll true true :: .stopDevices :: rest) env w
    have h : Safe outputs w' := by
      rw [show w' = _ from hs, shutdown_cons_stopped _ _ _ _ _ rfl, shutdown_cons_stopped _ _ _ _ _ rfl]
      refine Safe.shutdown rest _ ⟨rfl, fun n hn hmem => ?_, rfl⟩
      simp only [applyOp, List.mem_filter, ite_true, List.contains_eq_mem, List.mem_append, Bool.not_eq_true',
        decide_eq_false_iff_not, not_or] at hmem
      exact (hreg n hn).elim hmem.2.1 hmem.2.2
    exact ⟨h.off, h.cover, h.stopped⟩

/-! ## SwimPumpDevice -/
structure Swim where
  speed : Int        -- cached speed (-1 initially)
  relay : Bool
  dac : Int          -- last value written (percent)
  deriving Repr, DecidableEq

/-- `speed(value)`: `fails` = how many of the (up to three) DAC writes raise OSError; hasDac = a DAC was detected -/
def Swim.setSpeed (s : Swim) (value : Int) (hasDac : Bool) (fails : Nat) : Swim :=
  if s.speed == value then s
  else
    let relay := if s.speed ≤ 0 && value > 0 then true else if s.speed != 0 && value == 0 then false else s.relay
    if hasDac && fails ≥ 3 then { s with relay := relay }
    else { speed := value, relay := relay, dac := if hasDac then value else s.dac }

/-- `off()`: the relay is switched off first (`super().off()`), then speed(0) -/
def Swim.off (s : Swim) (hasDac : Bool) (fails : Nat) : Swim := ({ s with relay := false }).setSpeed 0 hasDac fails

def Swim.on (s : Swim) (hasDac : Bool) (fails : Nat) : Swim := s.setSpeed 100 hasDac fails

theorem swim_off_deenergises (s : Swim) (hasDac : Bool) (fails : Nat) : (s.off hasDac fails).relay = false := by
  unfold Swim.off Swim.setSpeed
  by_cases h : s.speed == 0 <;> simp [h] <;> split <;> simp_all

end Poupool.Main
