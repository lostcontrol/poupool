import Poupool.Model.Actor
/-!
  Composition of a GENERATED master model and a GENERATED slave model.

  `Model/Glue.lean` pairs a generated slave with a *hand-written* master (operations mHalt / mObserve / mTell /
  mMove on a ghost bit).  Here the master is the generated per-actor model itself:

  * `execE` / `stepE` are `exec` / `step` of `Model/Actor.lean` instrumented with the list of *effects* a handler
    performs, in program order: every `Stmt.emit tag` (the translator emits the tag `tell:X.m` for every tell to a
    tracked slave) and every `Cond.ask` with the answer that was taken.  `stepE_sound` / `stepE_complete`
    (`Proofs/ComposeProj.lean`): erasing the effects gives exactly `step` (as sets of outcomes; `exec` deduplicates,
    `execE` does not).
  * the composed system `CStep` runs a master handler (`stepE` of the master description), then *replays* its
    effects one by one against the slave's FIFO inbox, while the slave keeps serving its inbox and third parties
    keep queuing messages (so the slave runs *during* the master's handler as well):
      - a tell tag appends (from master, message) to the slave's inbox;
      - an answer to a question that is an *observation* of the slave (the refinement of that answer makes the
        ghost variable a "known halted" value: `is_halt()` TRUE, `is_heating()` FALSE) is possible only if none of
        the master's messages waits in the slave's inbox and the slave is halted (pykka answers a question after
        everything queued before it; the asker is blocked meanwhile); any other answer, or a timeout, is always
        possible;
      - the slave serves the head of its inbox with `step` of ITS generated description; a start message that
        does not come from the master is guarded by a synchronous question to the master: it is answered between
        two master handlers and refused unless the master's phase is in `allowed`.
  Import-free and executable.
-/
namespace Poupool.Compose
open Poupool

/-- what a handler does to the outside, in program order -/
inductive Eff
  | emit (tag : Nat)
  | ask (ans : Bool) (onTrue onFalse : List (VarId × Int))
  deriving Repr, DecidableEq, Inhabited

/-- `evalCond` with the effects (the questions asked, with the answer taken) -/
def evalCondE (locals : List Int) : Cond → St → List (Bool × St × List Eff)
  | .nondet, s => [(true, s, []), (false, s, [])]
  | .tt, s => [(true, s, [])]
  | .ff, s => [(false, s, [])]
  | .leafIn ls, s => [(ls.contains s.leaf, s, [])]
  | .cmp op a b, s =>
      match evalExpr locals s.vars a, evalExpr locals s.vars b with
      | some x, some y => [(cmpInt op x y, s, [])]
      | _, _ => [(true, s, []), (false, s, [])]
  | .ask t f, s =>
      [(true, { s with vars := t.foldl (fun vs (v, x) => setNth vs v x) s.vars }, [.ask true t f]),
       (false, { s with vars := f.foldl (fun vs (v, x) => setNth vs v x) s.vars }, [.ask false t f])]
  | .not c, s => (evalCondE locals c s).map fun (b, s', e) => (!b, s', e)
  | .and a b, s =>
      (evalCondE locals a s).flatMap fun (x, s', e) =>
        if x then (evalCondE locals b s').map fun (y, s'', e') => (y, s'', e ++ e') else [(false, s', e)]
  | .or a b, s =>
      (evalCondE locals a s).flatMap fun (x, s', e) =>
        if x then [(true, s', e)] else (evalCondE locals b s').map fun (y, s'', e') => (y, s'', e ++ e')

/-- `exec` with the effects; same clauses, no deduplication -/
def execE : Stmt → List Int → St → List (Flow × St × List Eff)
  | .skip, _, s => [(.normal, s, [])]
  | .seq a b, l, s =>
      (execE a l s).flatMap fun (f, s', e) =>
        match f with
        | .normal => (execE b l s').map fun (f', s'', e') => (f', s'', e ++ e')
        | _ => [(f, s', e)]
  | .set v x, l, s =>
      match evalExpr l s.vars x with
      | some x => [(.normal, { s with vars := setNth s.vars v x }, [])]
      | none => [(.normal, { s with bad := true }, [])]
  | .ite c t e, l, s =>
      (evalCondE l c s).flatMap fun (b, s', ec) =>
        (if b then execE t l s' else execE e l s').map fun (f, s'', e') => (f, s'', ec ++ e')
  | .choose a b, l, s => execE a l s ++ execE b l s
  | .forSetting _ vals body, l, s => vals.flatMap fun v => execE body (l ++ [v]) s
  | .delay m, _, s => [(.normal, { s with armed := some m }, [])]
  | .cancel, _, s => [(.normal, { s with armed := none }, [])]
  | .selfTell m, _, s => [(.normal, { s with pend := insertSorted m s.pend }, [])]
  | .ret, _, s => [(.returned, s, [])]
  | .stopRepeat, _, s => [(.stopped, s, [])]
  | .doRepeat body poll, l, s =>
      (execE body l s).map fun (f, s', e) =>
        match f with
        | .stopped => (.normal, s', e)
        | _ => (.normal, { s' with armed := some poll }, e)
  | .emit t, _, s => [(.normal, s, [.emit t])]
  | .scope body, l, s =>
      (execE body l s).map fun (f, s', e) =>
        match f with
        | .returned => (.normal, s', e)
        | _ => (f, s', e)
  | .opaque _, _, s => [(.normal, { s with bad := true }, [])]

/-- `runSeq` with the effects: the callbacks `ids` one after the other -/
def runSeqE (cbs : List Stmt) : List Nat → St → List (St × List Eff)
  | [], s => [(s, [])]
  | i :: is, s =>
      (execE (cbs.getD i (.opaque 999)) [] s).flatMap fun (_, s1, e1) =>
        (runSeqE cbs is s1).map fun (s2, e2) => (s2, e1 ++ e2)

def fireE (D : ActorDesc) (t : MsgId) (s : St) : List (St × List Eff) :=
  let rs := (D.rows.getD s.leaf []).filter fun r => r.trig == t
  let ignored := if D.total.contains (s.leaf, t) then [] else [(s, [])]
  ignored ++ rs.flatMap fun r =>
    (runSeqE D.callbacks r.pre s).flatMap fun (s1, e1) =>
      (runSeqE D.callbacks r.post (if r.internal then s1 else { s1 with leaf := r.dest, pend := [] })).map
        fun (s2, e2) => (s2, e1 ++ e2)

def callE (D : ActorDesc) (m : MsgId) (s : St) : List (St × List Eff) :=
  if D.triggers.contains m then fireE D m s
  else match D.methods.find? (·.1 == m) with
    | some (_, p) => (execE p [] s).map fun (_, s', e) => (s', e)
    | none => [(s, [])]

/-- `step` with the effects of the handler -/
def stepE (D : ActorDesc) (s : St) : Msg → List (St × List Eff)
  | .plain m => (callE D m { s with pend := removeMsg m s.pend }).map fun (s', e) => (applyHavoc D s', e)
  | .delayed m =>
      if s.armed == some m then (callE D m { s with armed := none }).map fun (s', e) => (applyHavoc D s', e)
      else [(s, [])]

/-! ## the composed system: generated master + generated slave, one tracked ghost variable -/

/-- One master/slave pair.  Everything except the two generated descriptions is *reading instructions* for the
    master's effects: which variable is the master's knowledge about X, which of its values mean "X is known to be
    halted", which emitted tags are tells to X (with the message X receives). -/
structure CSpec where
  DM : ActorDesc                  -- generated master
  DX : ActorDesc                  -- generated slave
  v : VarId                       -- the master's ghost variable about X
  isG : Int → Bool                -- its values that mean "X halted" (told a halt-class message last / answered is_halt)
  tells : List (Nat × Msg)        -- emitted tag ↦ message queued for X (ALL the master's tells of triggers to X)
  isHaltMsg : Msg → Bool          -- halt-class messages of X
  isHalt : St → Bool              -- X's halted states
  isStart : Msg → Bool            -- messages that can take X out of its halted states
  allowed : List LeafId           -- master phases in which X's own start guard can be true

/-- the value a refinement list finally gives to variable `v`, if it assigns it at all -/
def lastAssign (v : VarId) : List (VarId × Int) → Option Int
  | [] => none
  | (w, x) :: t =>
      match lastAssign v t with
      | some y => some y
      | none => if w = v then some x else none

/-- is this question an `X.is_halt()`: does its TRUE answer make the ghost variable a "known halted" value? -/
def askHalting (S : CSpec) (t : List (VarId × Int)) : Bool :=
  match lastAssign S.v t with
  | some x => S.isG x
  | none => false

def noMaster (l : List (Bool × Msg)) : Prop := ∀ e ∈ l, e.1 = false

structure CSt where
  m : St                          -- master (state after its current / last handler)
  x : St                          -- slave
  inbox : List (Bool × Msg)       -- slave inbox: (from the master?, message); the head is served next
  todo : List Eff                 -- effects of the master's current handler not yet performed ([] = between handlers)
  deriving Repr

inductive CStep (S : CSpec) : CSt → CSt → Prop
  /-- the master takes the next message of ITS alphabet: one outcome of the generated handler with its effects -/
  | mBegin (g : CSt) (msg : Msg) (m' : St) (effs : List Eff) (hidle : g.todo = [])
      (hmsg : msg ∈ allMsgs S.DM) (h : (m', effs) ∈ stepE S.DM g.m msg) :
      CStep S g { g with m := m', todo := effs }
  /-- next effect: a tell to X -/
  | mTell (g : CSt) (t : Nat) (rest : List Eff) (msg : Msg) (h : g.todo = .emit t :: rest)
      (ht : S.tells.lookup t = some msg) :
      CStep S g { g with inbox := g.inbox ++ [(true, msg)], todo := rest }
  /-- next effect: any other emitted tag (device writes, publishes, tells to other actors) -/
  | mEmit (g : CSt) (t : Nat) (rest : List Eff) (h : g.todo = .emit t :: rest) (ht : S.tells.lookup t = none) :
      CStep S g { g with todo := rest }
  /-- next effect: a question, answered `ans`.  If the refinement of that answer makes the ghost variable a "known
      halted" value (`X.is_halt()` answered TRUE, `X.is_heating()` answered FALSE, …) the answer is an observation
      of X: it needs X's inbox free of master messages and X halted.  Every other answer (and a timeout, which is
      a branch without question in the generated program) is always possible. -/
  | mAsk (g : CSt) (ans : Bool) (t f : List (VarId × Int)) (rest : List Eff) (h : g.todo = .ask ans t f :: rest)
      (hq : askHalting S (if ans then t else f) = true → noMaster g.inbox ∧ S.isHalt g.x = true) :
      CStep S g { g with todo := rest }
  /-- anybody else (dispatcher, X's own timers and self-tells, third actors, the master's untracked calls) queues
      a message for X -/
  | other (g : CSt) (m : Msg) (hm : m ∈ allMsgs S.DX) :
      CStep S g { g with inbox := g.inbox ++ [(false, m)] }
  /-- X serves the head of its inbox with ITS generated `step`; a foreign start message is guarded by a question
      to the master, answered between two master handlers: refused unless the master's phase is allowed -/
  | deliver (g : CSt) (e : Bool × Msg) (rest : List (Bool × Msg)) (x' : St)
      (h : g.inbox = e :: rest) (hm : e.2 ∈ allMsgs S.DX)
      (hs : if e.1 = false ∧ S.isStart e.2 = true then
              g.todo = [] ∧ (if S.allowed.contains g.m.leaf then x' ∈ step S.DX g.x e.2 else x' = g.x)
            else x' ∈ step S.DX g.x e.2) :
      CStep S g { g with x := x', inbox := rest }

def cinit (S : CSpec) : CSt := { m := initSt S.DM, x := initSt S.DX, inbox := [], todo := [] }

inductive CReach (S : CSpec) : CSt → Prop
  | init : CReach S (cinit S)
  | step {g g' : CSt} : CReach S g → CStep S g g' → CReach S g'

/-- abstract reading of one effect: after it, is the last *relevant* thing the master did towards X a halt-class
    tell or an observed `is_halt() = True`?  (telling a start message destroys the knowledge; telling a message
    that is neither halt-class nor a start message keeps it: by H2 such a message cannot un-halt X) -/
def ghost1 (S : CSpec) (a : Bool) : Eff → Bool
  | .emit t =>
      match S.tells.lookup t with
      | some m => if S.isHaltMsg m then true else if S.isStart m then false else a
      | none => a
  | .ask ans t f => a || askHalting S (if ans then t else f)

def ghostAfter (S : CSpec) (a : Bool) (effs : List Eff) : Bool := effs.foldl (ghost1 S) a

/-! ## an executable scheduler (used to exhibit concrete composed runs) -/

inductive Act
  /-- the master handles `msg`; of the possible outcomes of the generated handler take the first satisfying `pick` -/
  | master (msg : Msg) (pick : St × List Eff → Bool)
  /-- the master performs the next effect of its handler (fails if it is an observation that is not possible now) -/
  | eff
  /-- the master performs all the remaining effects of its handler -/
  | drain
  /-- a third party queues `m` for the slave -/
  | other (m : Msg)
  /-- the slave serves the head of its inbox; of the possible outcomes take the first satisfying `pick` -/
  | deliver (pick : St → Bool)
  /-- the slave serves its whole inbox (each time the first outcome satisfying `pick`) -/
  | serve (pick : St → Bool)

/-- the master performs the next effect of its handler -/
def eff1 (S : CSpec) (g : CSt) : Option CSt :=
  match g.todo with
  | [] => none
  | .emit t :: rest =>
      match S.tells.lookup t with
      | some msg => some { g with inbox := g.inbox ++ [(true, msg)], todo := rest }
      | none => some { g with todo := rest }
  | .ask ans t f :: rest =>
      if !askHalting S (if ans then t else f) || (g.inbox.all (fun e => !e.1) && S.isHalt g.x) then
        some { g with todo := rest }
      else none

def drainN (S : CSpec) : Nat → CSt → Option CSt
  | 0, g => some g
  | n + 1, g =>
      if g.todo.isEmpty then some g
      else match eff1 S g with
        | some g' => drainN S n g'
        | none => none

/-- the slave serves the head of its inbox -/
def deliver1 (S : CSpec) (pick : St → Bool) (g : CSt) : Option CSt :=
  match g.inbox with
  | [] => none
  | e :: rest =>
      if (allMsgs S.DX).contains e.2 then
        if !e.1 && S.isStart e.2 then
          if g.todo.isEmpty then
            if S.allowed.contains g.m.leaf then
              ((step S.DX g.x e.2).find? pick).map fun x' => { g with x := x', inbox := rest }
            else some { g with inbox := rest }
          else none
        else ((step S.DX g.x e.2).find? pick).map fun x' => { g with x := x', inbox := rest }
      else none

def serveN (S : CSpec) (pick : St → Bool) : Nat → CSt → Option CSt
  | 0, g => some g
  | n + 1, g =>
      if g.inbox.isEmpty then some g
      else match deliver1 S pick g with
        | some g' => serveN S pick n g'
        | none => none

def act (S : CSpec) (g : CSt) : Act → Option CSt
  | .master msg pick =>
      if g.todo.isEmpty && (allMsgs S.DM).contains msg then
        ((stepE S.DM g.m msg).find? pick).map fun (m', effs) => { g with m := m', todo := effs }
      else none
  | .eff => eff1 S g
  | .drain => drainN S g.todo.length g
  | .other m =>
      if (allMsgs S.DX).contains m then some { g with inbox := g.inbox ++ [(false, m)] } else none
  | .deliver pick => deliver1 S pick g
  | .serve pick => serveN S pick g.inbox.length g

def run (S : CSpec) : List Act → CSt → Option CSt
  | [], g => some g
  | a :: as, g =>
      match act S g a with
      | some g' => run S as g'
      | none => none

end Poupool.Compose
