/-
  Per-actor model: one controller = one hierarchical FSM (rows generated from the running `transitions`
  machine) + one program per Python method (generated from the AST), interpreted over a finite *modelled*
  state.  Everything that is not modelled (sensor values, answers of other actors, settings, time) is
  nondeterministic: the interpreter returns the list of ALL possible outcomes.  Hence every behaviour of the
  real actor, for every message order and every environment, projects onto a path of this model; an
  invariant of the model is an invariant of the actor.

  Import-free and executable (the fixpoint is computed by compiled code, the certificate is checked by the
  kernel).
-/
namespace Poupool

abbrev VarId := Nat
abbrev MsgId := Nat
abbrev LeafId := Nat

inductive CmpOp | lt | le | eq | ne | gt | ge
  deriving Repr, DecidableEq, Inhabited

/-- Integer expressions over bound locals (setting values); `unknown` = not modelled. -/
inductive Expr
  | const (n : Int)
  | loc (i : Nat)
  | var (v : VarId)
  | min (a b : Expr)
  | unknown
  deriving Repr, DecidableEq, Inhabited

inductive Cond
  | nondet
  | tt
  | ff
  | leafIn (ls : List LeafId)
  | cmp (op : CmpOp) (a b : Expr)
  /-- a synchronous question to another actor (`other.is_x().get()`): both answers are possible; each answer
      refines the knowledge (ghost) variables about that actor: it is given after everything sent so far has
      been processed. -/
  | ask (onTrue : List (VarId × Int)) (onFalse : List (VarId × Int))
  | not (c : Cond)
  | and (a b : Cond)
  | or (a b : Cond)
  deriving Repr, DecidableEq, Inhabited

inductive Stmt
  | skip
  | seq (a b : Stmt)
  | set (v : VarId) (e : Expr)
  | ite (c : Cond) (t e : Stmt)
  | choose (a b : Stmt)
  /-- read a setting once: the body runs with local `loc` bound to any of the accepted values -/
  | forSetting (loc : Nat) (vals : List Int) (body : Stmt)
  /-- `do_delay(d, m)` (also the first poll of a `@do_repeat` state): the single timer slot now holds `m` -/
  | delay (m : MsgId)
  | cancel
  | selfTell (m : MsgId)
  | ret
  | stopRepeat
  /-- body of a `@do_repeat()` wrapped `on_enter_*`: run, then arm the poll unless StopRepeatException -/
  | doRepeat (body : Stmt) (poll : MsgId)
  | emit (tag : Nat)
  /-- an inlined callee: a `return` inside ends the callee only -/
  | scope (body : Stmt)
  /-- a construct the translator does not understand: may do anything (all checkers fail on it) -/
  | opaque (tag : Nat)
  deriving Repr, DecidableEq, Inhabited

inductive Flow | normal | returned | stopped
  deriving Repr, DecidableEq, Inhabited

/-- Modelled state of one actor. -/
structure St where
  leaf : LeafId
  vars : List Int            -- device outputs written by this actor, ghost "last request" variables, last published state
  armed : Option MsgId       -- the delayed call carrying the current token (exact: do_delay/do_cancel invalidate)
  pend : List MsgId          -- MUST-pending unguarded self-tells issued since the current phase was entered (sorted set)
  bad : Bool                 -- an `opaque` statement was executed
  deriving Repr, DecidableEq, Inhabited, Hashable

def setNth : List Int → Nat → Int → List Int
  | [], _, _ => []
  | _ :: xs, 0, v => v :: xs
  | x :: xs, n + 1, v => x :: setNth xs n v

def getNth (l : List Int) (n : Nat) : Int := l.getD n 0

def insertSorted (m : Nat) : List Nat → List Nat
  | [] => [m]
  | x :: xs => if m < x then m :: x :: xs else if m = x then x :: xs else x :: insertSorted m xs

def evalExpr (locals : List Int) (vars : List Int) : Expr → Option Int
  | .const n => some n
  | .loc i => locals[i]?
  | .var v => vars[v]?
  | .min a b =>
      match evalExpr locals vars a, evalExpr locals vars b with
      | some x, some y => some (if x ≤ y then x else y)
      | _, _ => none
  | .unknown => none

def cmpInt : CmpOp → Int → Int → Bool
  | .lt, a, b => a < b
  | .le, a, b => a ≤ b
  | .eq, a, b => a == b
  | .ne, a, b => a != b
  | .gt, a, b => a > b
  | .ge, a, b => a ≥ b

/-- All possible (value, refined state) of a condition. -/
def evalCond (locals : List Int) : Cond → St → List (Bool × St)
  | .nondet, s => [(true, s), (false, s)]
  | .tt, s => [(true, s)]
  | .ff, s => [(false, s)]
  | .leafIn ls, s => [(ls.contains s.leaf, s)]
  | .cmp op a b, s =>
      match evalExpr locals s.vars a, evalExpr locals s.vars b with
      | some x, some y => [(cmpInt op x y, s)]
      | _, _ => [(true, s), (false, s)]
  | .ask t f, s =>
      [(true, { s with vars := t.foldl (fun vs (v, x) => setNth vs v x) s.vars }),
       (false, { s with vars := f.foldl (fun vs (v, x) => setNth vs v x) s.vars })]
  | .not c, s => (evalCond locals c s).map fun (b, s') => (!b, s')
  | .and a b, s =>
      (evalCond locals a s).flatMap fun (x, s') =>
        if x then evalCond locals b s' else [(false, s')]
  | .or a b, s =>
      (evalCond locals a s).flatMap fun (x, s') =>
        if x then [(true, s')] else evalCond locals b s'

def dedupFS : List (Flow × St) → List (Flow × St)
  | [] => []
  | x :: xs => if xs.contains x then dedupFS xs else x :: dedupFS xs

def dedupS : List St → List St
  | [] => []
  | x :: xs => if xs.contains x then dedupS xs else x :: dedupS xs

/-- All possible outcomes of a statement. -/
def exec : Stmt → List Int → St → List (Flow × St)
  | .skip, _, s => [(.normal, s)]
  | .seq a b, l, s =>
      (dedupFS (exec a l s)).flatMap fun (f, s') =>
        match f with
        | .normal => exec b l s'
        | _ => [(f, s')]
  | .set v e, l, s =>
      match evalExpr l s.vars e with
      | some x => [(.normal, { s with vars := setNth s.vars v x })]
      | none => [(.normal, { s with bad := true })]
  | .ite c t e, l, s =>
      (evalCond l c s).flatMap fun (b, s') => if b then exec t l s' else exec e l s'
  | .choose a b, l, s => exec a l s ++ exec b l s
  | .forSetting _ vals body, l, s =>
      vals.flatMap fun v => exec body (l ++ [v]) s
  | .delay m, _, s => [(.normal, { s with armed := some m })]
  | .cancel, _, s => [(.normal, { s with armed := none })]
  | .selfTell m, _, s => [(.normal, { s with pend := insertSorted m s.pend })]
  | .ret, _, s => [(.returned, s)]
  | .stopRepeat, _, s => [(.stopped, s)]
  | .doRepeat body poll, l, s =>
      (exec body l s).map fun (f, s') =>
        match f with
        | .stopped => (.normal, s')
        | _ => (.normal, { s' with armed := some poll })
  | .emit _, _, s => [(.normal, s)]
  | .scope body, l, s =>
      (exec body l s).map fun (f, s') =>
        match f with
        | .returned => (.normal, s')
        | _ => (f, s')
  | .opaque _, _, s => [(.normal, { s with bad := true })]

/-- duration of a `do_delay`, resolved by the translator: a number of half seconds (class constants and config.ini
    values evaluated on the running code), or a duration setting (`self.__x.total_seconds()`) -/
inductive Dur
  | halfSeconds (n : Nat)
  | setting (name : String)
  | unknown (src : String)
  deriving Repr, DecidableEq, Inhabited

/-- One row of the flattened transition table: what the real machine does for `trigger` in leaf `src` under
    one valuation of the guards of that trigger (obtained by executing the machine). `pre` are the callbacks
    run before the state changes (before_state_change, before, exits), `post` those after (enters, after). -/
structure Row where
  src : LeafId
  trig : MsgId
  dest : LeafId
  internal : Bool
  pre : List Nat      -- callback ids
  post : List Nat
  /-- guard literals common to every guard valuation under which this row fires: (guard id, required value) -/
  req : List (Nat × Bool)
  deriving Repr, DecidableEq, Inhabited

structure ActorDesc where
  nLeaves : Nat
  nVars : Nat
  nMsgs : Nat
  initLeaf : LeafId
  initVars : List Int
  rows : List (List Row)      -- indexed by source leaf
  /-- for every trigger name: is it total in leaf `l` (some row fires under every guard valuation)? -/
  total : List (LeafId × MsgId)
  /-- program of callback `i` -/
  callbacks : List Stmt
  /-- message id ↦ program, for messages that are plain method calls (polls, setters) -/
  methods : List (MsgId × Stmt)
  /-- message ids that are FSM triggers -/
  triggers : List MsgId
  /-- messages somebody sends as a plain call (dispatcher, other actors, unguarded self-tells) -/
  plainMsgs : List MsgId
  /-- messages some `do_delay`/`@do_repeat` names -/
  delayedMsgs : List MsgId
  /-- poll methods (`do_repeat_<phase>`) with the leaves of the phase they belong to -/
  pollOwner : List (MsgId × List LeafId)
  /-- knowledge variables that are forgotten whenever a handler ends in one of the given leaves (phases in which
      the other actor may start on its own or on a third party's request) -/
  havoc : List (VarId × List LeafId × Int)
  deriving Repr, Inhabited

def runSeq (cbs : List Stmt) (ids : List Nat) (s : St) : List St :=
  ids.foldl (fun acc i => dedupS (acc.flatMap fun st => (exec (cbs.getD i (.opaque 999)) [] st).map (·.2))) [s]

/-- fire a trigger: every row of (leaf, trigger) is possible (its guards are not modelled); no row ⇒ ignored -/
def fire (D : ActorDesc) (t : MsgId) (s : St) : List St :=
  let rs := (D.rows.getD s.leaf []).filter fun r => r.trig == t
  let ignored := if D.total.contains (s.leaf, t) then [] else [s]
  ignored ++ rs.flatMap fun r =>
    (runSeq D.callbacks r.pre s).flatMap fun s1 =>
      runSeq D.callbacks r.post (if r.internal then s1 else { s1 with leaf := r.dest, pend := [] })

def removeMsg (m : MsgId) (l : List MsgId) : List MsgId := l.filter (· != m)

/-- run message `m` (a trigger or a method) as a plain call -/
def call (D : ActorDesc) (m : MsgId) (s : St) : List St :=
  if D.triggers.contains m then fire D m s
  else match D.methods.find? (·.1 == m) with
    | some (_, p) => (exec p [] s).map (·.2)
    | none => [s]

/-- Messages an actor can receive: a plain call (from anybody, incl. its own unguarded self-tells) or a
    delayed call `do_delayed(token, m)`, which runs only if it carries the current token. -/
inductive Msg
  | plain (m : MsgId)
  | delayed (m : MsgId)
  deriving Repr, DecidableEq, Inhabited

def applyHavoc (D : ActorDesc) (s : St) : St :=
  { s with vars := D.havoc.foldl (fun vs (v, ls, x) => if ls.contains s.leaf then setNth vs v x else vs) s.vars }

def step (D : ActorDesc) (s : St) : Msg → List St
  | .plain m => (call D m { s with pend := removeMsg m s.pend }).map (applyHavoc D)
  | .delayed m =>
      if s.armed == some m then (call D m { s with armed := none }).map (applyHavoc D) else [s]

def allMsgs (D : ActorDesc) : List Msg :=
  D.plainMsgs.map Msg.plain ++ D.delayedMsgs.map Msg.delayed

def initSt (D : ActorDesc) : St :=
  { leaf := D.initLeaf, vars := D.initVars, armed := none, pend := [], bad := false }

/-- Reachability for EVERY message sequence (any length, any order, any environment). -/
inductive Reach (D : ActorDesc) : St → Prop
  | init : Reach D (initSt D)
  | step {s s' : St} (m : Msg) : Reach D s → m ∈ allMsgs D → s' ∈ step D s m → Reach D s'

/-- cheap fingerprint used to pre-filter before the structural comparison (no injectivity needed) -/
def fp (s : St) : Nat :=
  let a := match s.armed with | none => 0 | some m => m + 1
  let p := s.pend.foldl (fun acc m => acc * 67 + m + 1) 0
  s.vars.foldl (fun acc v => acc * 131 + (v + 2).toNat) (a * 211 + p)

/-- The certificate: candidate reachable states, bucketed by leaf, each with its fingerprint. -/
abbrev Buckets := List (List (Nat × St))

/-- bucket of a state: by leaf and fingerprint (keeps buckets, and the kernel's work per lookup, small) -/
def bkey (s : St) : Nat := s.leaf * 8 + fp s % 8

def memB (B : Buckets) (s : St) : Bool :=
  let h := fp s
  (B.getD (bkey s) []).any fun (h', t) => h' == h && t == s

def statesOf (B : Buckets) : List St := B.flatMap fun b => b.map (·.2)

/-- every successor of every state of bucket `l` is in the certificate -/
def leafClosed (D : ActorDesc) (B : Buckets) (l : Nat) : Bool :=
  (B.getD l []).all fun (_, s) => (allMsgs D).all fun m => (step D s m).all (memB B)

/-- contains the initial state and is closed under `step` for every message of the alphabet -/
def closed (D : ActorDesc) (B : Buckets) : Bool :=
  memB B (initSt D) && (List.range B.length).all (leafClosed D B)

theorem mem_getD_nil {α : Type} {l : List (List α)} {k : Nat} {x : α} (h : x ∈ l.getD k []) : k < l.length := by
  by_cases hk : k < l.length
  · exact hk
  · simp [List.getD, List.getElem?_eq_none (Nat.le_of_not_lt hk)] at h

theorem memB_bucket {B : Buckets} {s : St} (h : memB B s = true) : ∃ h', (h', s) ∈ B.getD (bkey s) [] := by
  simp only [memB, List.any_eq_true, Bool.and_eq_true, beq_iff_eq] at h
  obtain ⟨⟨h', t⟩, hmem, _, rfl⟩ := h
  exact ⟨h', hmem⟩

theorem memB_mem {B : Buckets} {s : St} (h : memB B s = true) : s ∈ statesOf B := by
  obtain ⟨h', hmem⟩ := memB_bucket h
  refine List.mem_flatMap.mpr ⟨_, ?_, List.mem_map.mpr ⟨_, hmem, rfl⟩⟩
  simp [List.getD, mem_getD_nil hmem]

theorem mem_statesOf {B : Buckets} {s : St} (h : s ∈ statesOf B) : ∃ b ∈ B, ∃ x ∈ b, x.2 = s := by
  simpa only [statesOf, List.mem_flatMap, List.mem_map] using h

theorem reach_in_cert {D : ActorDesc} {B : Buckets} (hc : closed D B = true) {s : St} (h : Reach D s) :
    s ∈ statesOf B := by
  simp only [closed, Bool.and_eq_true, List.all_eq_true, List.mem_range] at hc
  refine memB_mem ?_
  induction h with
  | init => exact hc.1
  | @step s s' m _ hm hs' ih =>
      obtain ⟨h', hin⟩ := memB_bucket ih
      have hl := hc.2 (bkey s) (mem_getD_nil hin)
      simp only [leafClosed, List.all_eq_true] at hl
      exact hl (h', s) hin m hm _ hs'

/-- The certificate pattern: a closed finite set all of whose members satisfy `P` proves `P` for every
    reachable state, i.e. for every message sequence of every length. -/
theorem invariant_of_closed (D : ActorDesc) (B : Buckets) (P : St → Bool)
    (hc : closed D B = true) (hP : (statesOf B).all P = true) : ∀ s, Reach D s → P s = true :=
  fun s hs => List.all_eq_true.mp hP s (reach_in_cert hc hs)

end Poupool
