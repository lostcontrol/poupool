/-!
  Blocking model for C09.  An actor blocked in `Future.get()` without timeout on a callee that never answers is
  blocked for ever; a set of actors deadlocks iff there is a cycle of such timeout-less waits.  A wait can only
  arise at an ask site of the code, i.e. along an edge of the (regenerated) strict ask graph.  If that graph admits a
  rank function that strictly decreases along every edge, no cycle of waits can ever exist – whatever the
  interleaving, the commands and the timers.
-/
namespace Poupool.Blocking

/-- a non-empty path in a relation given as an edge list -/
inductive Path (E : List (Nat × Nat)) : Nat → Nat → Prop
  | single {a b : Nat} : (a, b) ∈ E → Path E a b
  | cons {a b c : Nat} : (a, b) ∈ E → Path E b c → Path E a c

def rankOK (rank : List Nat) (E : List (Nat × Nat)) : Bool :=
  E.all fun (a, b) => rank.getD b 0 < rank.getD a 0

theorem rankOK_edge {rank : List Nat} {E : List (Nat × Nat)} (h : rankOK rank E = true) {a b : Nat}
    (hab : (a, b) ∈ E) : rank.getD b 0 < rank.getD a 0 := by
  simpa using List.all_eq_true.mp h (a, b) hab

theorem rank_decreases {rank : List Nat} {E : List (Nat × Nat)} (h : rankOK rank E = true) {a b : Nat}
    (p : Path E a b) : rank.getD b 0 < rank.getD a 0 := by
  induction p with
  | single hab => exact rankOK_edge h hab
  | cons hab _ ih => exact Nat.lt_trans ih (rankOK_edge h hab)

/-- **No deadlock.** `W` = the timeout-less waits in progress at some instant of some execution: every current wait is an ask
    site, so `W` is ranked as `E` is, and the rank cannot decrease around a cycle. -/
theorem no_deadlock {rank : List Nat} {E : List (Nat × Nat)} (h : rankOK rank E = true)
    (W : List (Nat × Nat)) (hsub : ∀ e ∈ W, e ∈ E) (a : Nat) : ¬ Path W a a :=
  fun p => Nat.lt_irrefl _ (rank_decreases (List.all_eq_true.mpr fun e he => List.all_eq_true.mp h e (hsub e he)) p)

/-! ## liveness skeleton: every actor eventually answers

`Responsive E a`: every actor that `a` may wait for without timeout is itself responsive.  Reading: the handlers of `a`
consist of finitely many statements (the translated programs have no loops; device calls are assumed to return); the
only places where a handler can block for ever are its timeout-less asks; if every callee eventually answers, the
handler finishes, so `a` serves its inbox in FIFO order and eventually answers every question and processes every
request queued for it.  In a ranked graph EVERY actor is responsive (well-founded induction on the rank). -/
inductive Responsive (E : List (Nat × Nat)) : Nat → Prop
  | mk (a : Nat) : (∀ b, (a, b) ∈ E → Responsive E b) → Responsive E a

theorem all_responsive {rank : List Nat} {E : List (Nat × Nat)} (h : rankOK rank E = true) :
    ∀ a, Responsive E a := by
  intro a
  generalize hn : rank.getD a 0 = n
  induction n using Nat.strongRecOn generalizing a with
  | _ n ih =>
      subst hn
      exact .mk a fun b hab => ih _ (rankOK_edge h hab) b rfl

end Poupool.Blocking
