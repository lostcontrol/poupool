import Poupool.Generated.ActorCerts
import Poupool.Proofs.ActorLib
import Poupool.Model.Guards
/-!
# C07  Drain and backwash valves are confined to a bounded backwash cycle
* `drain_backwash_only_in_wash`: for every message sequence the two valves are open only in `wash_backwash` /
  `wash_rinse` (backwash valve only in `wash_backwash`).
* `wash_needs_high_tank`: every row entering the wash cycle carries the guard `tank_is_high`.
* `wash_cycle_rows`: inside the cycle only `rinse` (backwash→rinse), `eco` (rinse→eco) and `halt` are accepted.
* `rinse_exit_publishes`: leaving `wash_rinse` publishes the completion time retained.
  Timing (durations, 2×2 s valve sequencing) : `Timing.filtration_setting_end_on_time`, C08 certificate + timed correspondence in checks/c07.py.
-/
namespace Poupool.C07
open Poupool.Gen

def valvesOK (s : St) : Bool :=
  !s.bad &&
  (s.v Filtration.v_dev_drain == 0 || s.leaf == Filtration.leaf_wash_backwash || s.leaf == Filtration.leaf_wash_rinse) &&
  (s.v Filtration.v_dev_backwash == 0 || s.leaf == Filtration.leaf_wash_backwash)

theorem drain_backwash_only_in_wash : ∀ s, Reach filtrationSafetyDesc s → valvesOK s = true :=
  invariant_of_closed _ _ _ Cert.filtrationSafety_closed (by decide +kernel)

example : (statesOf filtrationSafetyReach).any (fun s => s.v Filtration.v_dev_drain == 1) = true := by decide +kernel

def isWash (l : Nat) : Bool := l == Filtration.leaf_wash_backwash || l == Filtration.leaf_wash_rinse

def washGuarded : Bool :=
  filtrationRows.all fun rs => rs.all fun r =>
    !(isWash r.dest && !isWash r.src) || r.req.contains (Filtration.g_tank_is_high, true)

theorem wash_needs_high_tank : washGuarded = true := by decide +kernel

def washRows : Bool :=
  ((filtrationRows.getD Filtration.leaf_wash_backwash []).all fun r =>
      (r.trig == Filtration.m_rinse && r.dest == Filtration.leaf_wash_rinse) ||
      (r.trig == Filtration.m_halt && r.dest == Filtration.leaf_halt)) &&
  ((filtrationRows.getD Filtration.leaf_wash_rinse []).all fun r =>
      (r.trig == Filtration.m_eco && r.dest == Filtration.leaf_eco_compute) ||
      (r.trig == Filtration.m_halt && r.dest == Filtration.leaf_halt))

theorem wash_cycle_rows : washRows = true := by decide +kernel

/-- does a program contain the effect `tag` on every path?  (straight-line programs: simply "contains") -/
def emits (tag : Nat) : Stmt → Bool
  | .seq a b => emits tag a || emits tag b
  | .emit t => t == tag
  | .scope b => emits tag b
  | .doRepeat b _ => emits tag b
  | _ => false

def rinseExitPublishes : Bool :=
  ((filtrationRows.getD Filtration.leaf_wash_rinse []).all fun r => r.pre.contains Filtration.cb_on_exit_wash_rinse) &&
  emits (names.idxOf "publish:filtration_backwash_last:retain")
    (filtrationSafetyDesc.callbacks.getD Filtration.cb_on_exit_wash_rinse .skip)

theorem rinse_exit_publishes : rinseExitPublishes = true := by decide +kernel

/-! ## automatic start: only when due (Model/Guards.lean `startBackwash`, compared with the real `__start_backwash`) -/
open Poupool.Guards in
/-- the automatic backwash is requested only when at least `period` whole days have passed since the last one and the
    tank is high; the dispatcher accepts periods 0..90 and the setter refuses < 2 (C14), so period ∈ 2..90 -/
theorem auto_backwash_only_when_due (now last period : Int) (high : Bool) :
    startBackwash now last period high = true → now - last ≥ period * 86400000000 ∧ high = true := by
  simp [startBackwash]

example : Poupool.Guards.startBackwash (30 * 86400000000) 0 30 true = true := by decide

end Poupool.C07
