import Poupool.Model.Sensor
import Poupool.Proofs.Reader
/-!
# The level sensor as the Tank controller reads it (clause "a dead level sensor, which reads as 0" of C04; R of the latency bound)

* `dead_sensor_reads_zero`: when every attempt fails the value is exactly 0 — for every valid calibration (0 ≤ low < high;
  with a negative `low` the statement is false: `dead_sensor_needs_nonneg_low`).
* `value_in_range`: the value is a fraction in [0, 100] whatever the ADC delivers.
* `reading_time`: a reading of ten attempts takes between 0.5 s and 5 s, 5 s exactly when all fail (R = 5 s of `C04.latency_bound`).
* `low_readings_read_low`: if every successful reading is below the raw count that corresponds to p percent, the value is
  below p (failed attempts in between never push the level up); symmetric `high_readings_read_high` (never pull it down);
  `steady_reading`: with a steady raw count the mean does not depend on which attempts fail.
-/
namespace Poupool.SensorProps
open Poupool.Sensor

theorem good_eq_nil_iff {reads : List (Option Int)} : good reads = [] ↔ ∀ r ∈ reads, r = none := by
  simp [good, List.filterMap_eq_nil_iff]

theorem good_none (n : Nat) : good (List.replicate n none) = [] :=
  good_eq_nil_iff.2 fun _ hr => (List.mem_replicate.mp hr).2

theorem dead_sensor_reads_zero (c : Cfg) (hv : Valid c) (reads : List (Option Int)) (hdead : ∀ r ∈ reads, r = none) :
    (value c reads).1 = 0 ∧ 0 < (value c reads).2 := by
  obtain ⟨h0, h1⟩ := hv
  simp only [value, Sensor.mean, good_eq_nil_iff.2 hdead, if_true]
  split
  · simp
  · split <;> simp only <;> omega

/-- the hypothesis is needed: with a negative lower calibration point a dead sensor reads a positive level -/
theorem dead_sensor_needs_nonneg_low : value ⟨-100, 100⟩ (List.replicate 10 none) = (10000, 200) := by decide

example : Valid ⟨83, 1665⟩ ∧ value ⟨83, 1665⟩ (List.replicate 10 none) = (0, 1) := by decide

theorem good_length_pos {reads : List (Option Int)} (h : good reads ≠ []) : 0 < ((good reads).length : Int) :=
  Int.natCast_pos.mpr (List.length_pos_iff.mpr h)

theorem den_pos (c : Cfg) (hv : Valid c) (reads : List (Option Int)) : 0 < (mean reads).2 * (c.high - c.low) := by
  obtain ⟨_, h1⟩ := hv
  unfold mean
  by_cases hg : good reads = []
  · simp [hg]; omega
  · simp only [hg, if_false]
    exact Int.mul_pos (good_length_pos hg) (by omega)

theorem value_in_range (c : Cfg) (hv : Valid c) (reads : List (Option Int)) :
    0 < (value c reads).2 ∧ 0 ≤ (value c reads).1 ∧ (value c reads).1 ≤ 100 * (value c reads).2 := by
  have hd := den_pos c hv reads
  unfold value
  generalize mean reads = m at *
  obtain ⟨s, n⟩ := m
  simp only at hd ⊢
  split
  · simp
  · split
    · simp
    · refine ⟨hd, by omega, by omega⟩

/-- every attempt costs 500 ms, a successful one 450 ms less -/
theorem elapsed_eq (reads : List (Option Int)) : elapsedMs reads + 450 * (good reads).length = 500 * reads.length := by
  induction reads with
  | nil => rfl
  | cons r rs ih => cases r <;> simp [elapsedMs, good] at ih ⊢ <;> omega

theorem reading_time (reads : List (Option Int)) (h : reads.length = 10) : 500 ≤ elapsedMs reads ∧ elapsedMs reads ≤ 5000 := by
  have := elapsed_eq reads
  have : (good reads).length ≤ reads.length := List.length_filterMap_le id reads
  omega

theorem dead_reading_time {reads : List (Option Int)} (hdead : ∀ r ∈ reads, r = none) :
    elapsedMs reads = 500 * reads.length := by
  simpa [good_eq_nil_iff.2 hdead] using elapsed_eq reads

theorem total_eq_sum (l : List Int) : total l = l.sum := by
  induction l with
  | nil => rfl
  | cons a as ih => simp [total, ih]

/-- the calibration inequality between `(x − low)·100` and `p·span`, multiplied by the number `n` of readings, in the
    form in which `value` computes numerator and denominator -/
theorem count_mul_left (x lo n : Int) : (x - lo) * 100 * n = (x * n - lo * n) * 100 := by
  rw [Int.sub_mul, Int.sub_mul, Int.sub_mul, Int.mul_right_comm x, Int.mul_right_comm lo]

theorem count_mul_right (p span n : Int) : p * span * n = p * (n * span) := by
  rw [Int.mul_assoc, Int.mul_comm span]

/-- the clamp to [0, 100] does not change the comparison with a percentage `p` (`v`: `value` as a function of its numerator and
    denominator) -/
theorem clamp_below {num den p : Int} (hd : 0 < den) {v : Int × Int}
    (hv : v = if num < 0 then (0, 1) else if num > 100 * den then (100, 1) else (num, den)) :
    (0 < p → num < p * den → below v p) ∧ (p ≤ 100 → p * den ≤ num → ¬ below v p) := by
  subst hv
  unfold below
  refine ⟨fun hp h => ?_, fun hp h => ?_⟩
  · split
    · simpa using hp
    · split
      · simpa using (Int.mul_lt_mul_right hd).mp (show 100 * den < p * den by omega)
      · exact h
  · split
    · have := (Int.mul_lt_mul_right hd).mp (show p * den < 0 * den by omega)
      simp only
      omega
    · split
      · simp only
        omega
      · exact Int.not_lt.mpr h

/-- raw count x corresponds to at most p percent: (x − low)·100 ≤ p·(high − low).  If at least one attempt succeeds and every
    successful reading is below x, the value is below p percent (for p > 0). -/
theorem low_readings_read_low (c : Cfg) (hv : Valid c) (reads : List (Option Int)) (x p : Int) (hp : 0 < p)
    (hx : (x - c.low) * 100 ≤ p * (c.high - c.low)) (hall : ∀ r ∈ good reads, r < x) (hne : good reads ≠ []) :
    below (value c reads) p := by
  have hn := good_length_pos hne
  have hs := Reader.sum_le_of_forall_le _ (x - 1) fun r hr => Int.le_sub_one_of_lt (hall r hr)
  have := Int.mul_le_mul_of_nonneg_right hx (Int.le_of_lt hn)
  rw [count_mul_left, count_mul_right] at this
  rw [Int.sub_mul] at hs
  simp only [value, mean, hne, if_false, total_eq_sum]
  exact (clamp_below (Int.mul_pos hn (Int.sub_pos.mpr hv.2)) rfl).1 hp (by omega)

/-- with the shipped calibration: every successful reading below 241 counts (10 % of the span) reads below the too-low
    threshold of 10 %, however many attempts fail in between -/
example : below (value ⟨83, 1665⟩ [some 200, none, some 240, none, none, some 100, some 0, none, some 239, some 240]) 10 := by decide

/-- raw count x corresponds to at least p percent: p·(high − low) ≤ (x − low)·100.  If at least one attempt succeeds and every
    successful reading is at least x, the value is NOT below p percent (for p ≤ 100): failed attempts in between never pull the
    level down, so a full tank with a flaky ADC is not taken for a low one (no false refill, no false emergency stop). -/
theorem high_readings_read_high (c : Cfg) (hv : Valid c) (reads : List (Option Int)) (x p : Int) (hp : p ≤ 100)
    (hx : p * (c.high - c.low) ≤ (x - c.low) * 100) (hall : ∀ r ∈ good reads, x ≤ r) (hne : good reads ≠ []) :
    ¬ below (value c reads) p := by
  have hn := good_length_pos hne
  have hs := Reader.sum_ge_of_forall_ge _ x hall
  have := Int.mul_le_mul_of_nonneg_right hx (Int.le_of_lt hn)
  rw [count_mul_left, count_mul_right] at this
  simp only [value, mean, hne, if_false, total_eq_sum]
  exact (clamp_below (Int.mul_pos hn (Int.sub_pos.mpr hv.2)) rfl).2 hp (by omega)

/-- with the shipped calibration: every successful reading at or above 716 counts (40 % of the span) reads at or above the
    low threshold of 40 %, however many attempts fail in between -/
example : ¬ below (value ⟨83, 1665⟩ [some 716, none, some 900, none, none, some 4095, some 716, none, some 800, some 716]) 40 := by decide

theorem steady_reading (reads : List (Option Int)) (x : Int) (hall : ∀ r ∈ good reads, r = x) (hne : good reads ≠ []) :
    mean reads = (x * ((good reads).length : Int), ((good reads).length : Int)) := by
  have a := Reader.sum_ge_of_forall_ge (good reads) x fun r hr => Int.le_of_eq (hall r hr).symm
  have b := Reader.sum_le_of_forall_le (good reads) x fun r hr => Int.le_of_eq (hall r hr)
  simp only [Sensor.mean, hne, if_false, total_eq_sum, Int.le_antisymm b a]

end Poupool.SensorProps
