import Poupool.Proofs.Compose3
import Poupool.Properties.Compose
/-!
# The chain Filtration → Disinfection → PWM in ONE composed system (C02: chemicals only into flowing water)

`Properties/Compose.lean` proves the two links separately: `filtDis_composed_no_treatment` in the pair system
(Filtration ∥ Disinfection) and `disPwm_composed_halt` in the pair system (Disinfection ∥ PWM), each treating every
other actor as an adversarial third party.  Nothing there says that both hold in the same execution: in the lower
pair Disinfection begins handlers out of nowhere, in the upper pair it has no effects.

Here the three GENERATED models run in one system (`Model/Compose3.lean`): Filtration's handlers (`stepE`) queue tells
in Disinfection's FIFO inbox; Disinfection serves that inbox with `stepE` of its own generated description, and the
effects of THAT handler queue tells in the PWM's FIFO inbox; the PWM serves its inbox with its generated `step`;
third parties queue anything for Disinfection and for the PWM at any time.  `Compose3.treach_projAB` /
`treach_projBC` project every reachable triple state onto a reachable state of each pair system, so the pair
theorems (and the per-actor certificates behind them) apply to the SAME state:

* `chain_off_when_served_ph/_cl` – Filtration's knowledge variable says `halt`, everything served ⇒ Disinfection in
  `halt` ∧ dosing relay off ∧ PWM loop disarmed;
* `chain_halt_ph/_cl`, `chain_no_treatment_ph/_cl` – the same from Filtration's phase (`halt`, or any phase of
  C02's no-treatment list), with Filtration's certificate;
* `chain_hypotheses_needed_ph/_cl` – each of the four "settled" hypotheses is necessary: four reachable states, each
  violating exactly one of them, in which the dosing relay is on while Filtration is in `halt`.

Assumptions of the triple model, on top of those of the pair model (header of `Properties/Compose.lean`):
a handler of Disinfection is atomic w.r.t. other messages to Disinfection (it serves the next message only after the
previous handler has performed all its effects; Filtration and the PWM do run during it); the state of an actor
jumps to its post-handler state when the handler begins, its effects are then performed one at a time in program
order; an observing answer of Disinfection to Filtration (`is_halt()` TRUE) is given on Disinfection's post-handler
state, possibly before the effects of that handler are performed (more behaviours than pykka allows, so sound);
the guard question of a foreign start message is answered between two handlers of the asked actor and is atomic
with the asker's transition; a refused start does nothing.
-/
namespace Poupool.Compose3Props
open Poupool.Gen Poupool.Compose Poupool.Compose3 Poupool.ComposeProps

/-- Filtration → Disinfection → PWM(pH): the two pair specifications of `Properties/Compose.lean`; they use the same
    generated description of Disinfection -/
def chainPh : TSpec := { SAB := filtDis, SBC := disPwm, agree := rfl }

def chainCl : TSpec := { SAB := filtDis, SBC := disPwmCl, agree := rfl }

def servedB (g : TSt) : Bool := g.inboxB.all fun e => !e.1

def servedC (g : TSt) : Bool := g.inboxC.all fun e => !e.1

/-! ## concrete runs of the chain (used for the non-vacuity examples) -/

/-- `eco` → `eco_compute`, its timer → `eco_normal` where Filtration asks `is_halt` (TRUE) and tells Disinfection
    `run`; Disinfection serves it (→ `waiting`); its timer (queued by a third party: Disinfection's own delayed call)
    → `running_adjusting` where Disinfection tells both loops `do_run`; the loop serves it and switches the dosing
    relay on. -/
def chainStart (runTag : Nat) : List Act3 :=
  [.a (.plain Filtration.m_eco) (fun o => o.1.armed == some Filtration.m_eco_normal), .drainA,
   .a (.delayed Filtration.m_eco_normal) (fun o => o.2.contains (.emit 10)), .drainA,
   .serveB (fun o => o.1.leaf == Disinfection.leaf_waiting), .drainB,
   .otherB (.delayed Disinfection.m_run), .serveB (fun o => o.2.contains (.emit runTag)), .drainB,
   .deliverC (fun s => s.v PWM.v_dev_pump == 1)]

/-- Filtration handles `msg` and ends in `leaf`, telling Disinfection `halt` (its question `is_halt` is answered
    FALSE or times out) -/
def stopA (msg : Msg) (leaf : Nat) : Act3 :=
  .a msg (fun o => o.1.leaf == leaf && o.2.contains (.emit 6) && !o.2.contains (.ask true [(3, 0)] []))

/-- Disinfection serves `halt`, telling the loop `do_cancel` -/
def stopB (cancelTag : Nat) : Act3 :=
  .serveB (fun o => o.1.leaf == Disinfection.leaf_halt && o.2.contains (.emit cancelTag))

def chainStop (msg : Msg) (leaf : Nat) (cancelTag : Nat) : List Act3 :=
  [stopA msg leaf, .drainA, stopB cancelTag, .drainB, .serveC (fun _ => true)]

def settled (g : TSt) : Bool := g.todoA.isEmpty && g.todoB.isEmpty && servedB g && servedC g

/-- the check performed on a run: dosing in `g1`, then everything settled and off in `g2` -/
def demoCheck (S : TSpec) (runTag cancelTag : Nat) (msg : Msg) (leaf : Nat) : Option Bool :=
  (run3 S (chainStart runTag) (tinit S)).bind fun g1 =>
    (run3 S (chainStop msg leaf cancelTag) g1).map fun g2 =>
      g1.a.leaf == Filtration.leaf_eco_normal && g1.b.leaf == Disinfection.leaf_running_adjusting &&
      g1.c.v PWM.v_dev_pump == 1 &&
      settled g2 && g2.a.leaf == leaf && g2.b.leaf == Disinfection.leaf_halt && g2.c.v PWM.v_dev_pump == 0

theorem chainPh_demo_halt :
    demoCheck chainPh 65 59 (.plain Filtration.m_halt) Filtration.leaf_halt = some true := by decide +kernel

theorem chainPh_demo_wash :
    demoCheck chainPh 65 59 (.plain Filtration.m_wash) Filtration.leaf_wash_backwash = some true := by
  decide +kernel

theorem chainCl_demo_halt :
    demoCheck chainCl 68 61 (.plain Filtration.m_halt) Filtration.leaf_halt = some true := by decide +kernel

theorem chainCl_demo_wash :
    demoCheck chainCl 68 61 (.plain Filtration.m_wash) Filtration.leaf_wash_backwash = some true := by
  decide +kernel

/-- from a successful `demoCheck`: a reachable state `g1` in which the relay is on, and a reachable state `g2`
    reached from it that satisfies the hypotheses of the chain theorems with Filtration in `leaf` -/
theorem demo_states {S : TSpec} {runTag cancelTag : Nat} {msg : Msg} {leaf : Nat}
    (h : demoCheck S runTag cancelTag msg leaf = some true) :
    ∃ g1 g2, TReach S g1 ∧ g1.c.v PWM.v_dev_pump = 1 ∧ run3 S (chainStop msg leaf cancelTag) g1 = some g2 ∧
      TReach S g2 ∧ g2.todoA = [] ∧ g2.todoB = [] ∧ g2.a.leaf = leaf ∧ noMaster g2.inboxB ∧ noMaster g2.inboxC := by
  obtain ⟨g1, h1, h⟩ := Option.bind_eq_some_iff.1 h
  obtain ⟨g2, h2, h⟩ := Option.map_eq_some_iff.1 h
  simp only [Bool.and_eq_true, beq_iff_eq, settled, List.isEmpty_iff] at h
  obtain ⟨⟨⟨⟨⟨⟨_, _⟩, hp⟩, ⟨⟨⟨hA, hB⟩, hsB⟩, hsC⟩⟩, ha⟩, _⟩, _⟩ := h
  have r1 := run3_sound S _ TReach.init h1
  exact ⟨g1, g2, r1, hp, h2, run3_sound S _ r1 h2, hA, hB, ha, noMaster_of_all hsB, noMaster_of_all hsC⟩

/-! ## Filtration → Disinfection → PWM(pH) -/

/-- **The chain in one execution, every interleaving**: Filtration and Disinfection between two handlers,
    Filtration's knowledge variable says `halt`, none of Filtration's messages waits in Disinfection's inbox, none of
    Disinfection's messages waits in the pH loop's inbox ⇒ Disinfection is in `halt`, the dosing relay is off and the
    loop is disarmed.  (The four "settled" hypotheses are forced by the model, see `chain_hypotheses_needed_ph`: an
    actor's state is its post-handler state from the beginning of the handler, so while `halt` / `do_cancel` is
    still a pending effect or still queued the receiver has not seen it.  Third-party messages may wait in both
    inboxes.) -/
theorem chain_off_when_served_ph {g : TSt} (h : TReach chainPh g) (hA : g.todoA = []) (hB : g.todoB = [])
    (hg : g.a.v Filtration.v_rq_Disinfection = N.halt_) (hsB : noMaster g.inboxB) (hsC : noMaster g.inboxC) :
    g.b.leaf = Disinfection.leaf_halt ∧ g.c.v PWM.v_dev_pump = 0 ∧ g.c.armed = none := by
  have hb : g.b.leaf = Disinfection.leaf_halt :=
    filtDis_halted_when_served (treach_projAB chainPh h) hA hg hsB
  exact ⟨hb, disPwm_composed_halt (treach_projBC chainPh h) hB hb hsC⟩

example : ∃ g, TReach chainPh g ∧ g.todoA = [] ∧ g.todoB = [] ∧ g.a.v Filtration.v_rq_Disinfection = N.halt_ ∧
    noMaster g.inboxB ∧ noMaster g.inboxC :=
  ⟨tinit chainPh, TReach.init, rfl, rfl, by decide, nofun, nofun⟩

/-- **C02, every no-treatment phase** (`halt`, `closing`, `opening_*`, `eco_waiting`, `eco_tank`, `*_boost`, `sweep`,
    `wash_*`, `wintering_*`): Filtration in such a phase, everything served ⇒ Disinfection in `halt`, pH dosing relay
    off, loop disarmed -/
theorem chain_no_treatment_ph {g : TSt} (h : TReach chainPh g) (hA : g.todoA = []) (hB : g.todoB = [])
    (hm : noTreatment g.a.leaf = true) (hsB : noMaster g.inboxB) (hsC : noMaster g.inboxC) :
    g.b.leaf = Disinfection.leaf_halt ∧ g.c.v PWM.v_dev_pump = 0 ∧ g.c.armed = none := by
  have hb : g.b.leaf = Disinfection.leaf_halt :=
    filtDis_composed_no_treatment (treach_projAB chainPh h) hA hm hsB
  exact ⟨hb, disPwm_composed_halt (treach_projBC chainPh h) hB hb hsC⟩

/-- **C02, halt**: Filtration in phase `halt`, everything served ⇒ Disinfection in `halt`, pH dosing relay off, loop
    disarmed; in one execution of the three generated models.  `hA`/`hB`/`hsB`/`hsC` are each necessary
    (`chain_hypotheses_needed_ph`). -/
theorem chain_halt_ph {g : TSt} (h : TReach chainPh g) (hA : g.todoA = []) (hB : g.todoB = [])
    (hm : g.a.leaf = Filtration.leaf_halt) (hsB : noMaster g.inboxB) (hsC : noMaster g.inboxC) :
    g.b.leaf = Disinfection.leaf_halt ∧ g.c.v PWM.v_dev_pump = 0 ∧ g.c.armed = none :=
  chain_no_treatment_ph h hA hB (by rw [hm]; decide) hsB hsC

/-- non-vacuity: the hypotheses hold in a state reached by a run in which Filtration started Disinfection,
    Disinfection started the loop, the relay was on (`g1`), and Filtration was then halted -/
example : ∃ g1 g2, TReach chainPh g1 ∧ g1.c.v PWM.v_dev_pump = 1 ∧
    run3 chainPh (chainStop (.plain Filtration.m_halt) Filtration.leaf_halt 59) g1 = some g2 ∧
    TReach chainPh g2 ∧ g2.todoA = [] ∧ g2.todoB = [] ∧ g2.a.leaf = Filtration.leaf_halt ∧
    noMaster g2.inboxB ∧ noMaster g2.inboxC := demo_states chainPh_demo_halt

/-- non-vacuity on a phase other than `halt`: dosing, then `wash` takes Filtration to `wash_backwash` -/
example : ∃ g1 g2, TReach chainPh g1 ∧ g1.c.v PWM.v_dev_pump = 1 ∧
    run3 chainPh (chainStop (.plain Filtration.m_wash) Filtration.leaf_wash_backwash 59) g1 = some g2 ∧
    TReach chainPh g2 ∧ g2.todoA = [] ∧ g2.todoB = [] ∧ noTreatment g2.a.leaf = true ∧
    noMaster g2.inboxB ∧ noMaster g2.inboxC := by
  obtain ⟨g1, g2, r1, hp, hrun, r2, hA, hB, ha, hsB, hsC⟩ := demo_states chainPh_demo_wash
  exact ⟨g1, g2, r1, hp, hrun, r2, hA, hB, by rw [ha]; decide, hsB, hsC⟩

/-- the relay is on in `g`, Filtration is in `halt`, and exactly the named hypothesis of `chain_halt_ph` fails -/
def needed (S : TSpec) (runTag : Nat) (stop : List Act3) (which : TSt → Bool) : Option Bool :=
  (run3 S (chainStart runTag ++ stop) (tinit S)).map fun g =>
    g.a.leaf == Filtration.leaf_halt && g.c.v PWM.v_dev_pump == 1 && which g

/-- **Sharpness.** None of the four settled-state hypotheses of `chain_halt_ph` can be dropped: after the dosing
    run, (1) Filtration has begun `halt` but not yet performed its tell; (2) the tell waits in Disinfection's inbox;
    (3) Disinfection has begun serving `halt` (it IS in `halt`) but has not yet performed `do_cancel`; (4) `do_cancel`
    waits in the loop's inbox.  In each of these reachable states Filtration is in `halt`, the other three
    hypotheses hold, and the dosing relay is on. -/
theorem chain_hypotheses_needed_ph :
    needed chainPh 65 [stopA (.plain Filtration.m_halt) Filtration.leaf_halt]
      (fun g => !g.todoA.isEmpty && g.todoB.isEmpty && servedB g && servedC g) = some true ∧
    needed chainPh 65 [stopA (.plain Filtration.m_halt) Filtration.leaf_halt, .drainA]
      (fun g => g.todoA.isEmpty && g.todoB.isEmpty && !servedB g && servedC g) = some true ∧
    needed chainPh 65 [stopA (.plain Filtration.m_halt) Filtration.leaf_halt, .drainA, stopB 59]
      (fun g => g.todoA.isEmpty && !g.todoB.isEmpty && servedB g && servedC g &&
        g.b.leaf == Disinfection.leaf_halt) = some true ∧
    needed chainPh 65 [stopA (.plain Filtration.m_halt) Filtration.leaf_halt, .drainA, stopB 59, .drainB]
      (fun g => g.todoA.isEmpty && g.todoB.isEmpty && servedB g && !servedC g &&
        g.b.leaf == Disinfection.leaf_halt) = some true := by decide +kernel

/-- the link hypothesis of the general chain theorem `Compose3.chain_halted_when_served` for this instance is
    Disinfection's own certificate: in `halt` its last word to the pH loop is `do_cancel` (or nothing yet) -/
theorem chainPh_link (b : St) (hr : Reach chainPh.DB b) (hh : chainPh.SAB.isHalt b = true) :
    chainPh.SBC.isG (getNth b.vars chainPh.SBC.v) = true := by
  simpa [chainPh, disPwm, St.v] using (disinfection_halt_cancelled b hr (beq_iff_eq.1 hh)).1

/-- the general chain theorem is not vacuous: all its hypotheses hold of the generated models -/
example {g : TSt} (h : TReach chainPh g) (hA : g.todoA = []) (hB : g.todoB = [])
    (hg : g.a.v Filtration.v_rq_Disinfection = N.halt_) (hsB : noMaster g.inboxB) (hsC : noMaster g.inboxC) :
    chainPh.SAB.isHalt g.b = true ∧ chainPh.SBC.isHalt g.c = true :=
  chain_halted_when_served chainPh (masterOK_of_discipline _ filtDis_discipline)
    (slaveOK_of_glue C01.disinfection_slave_ok) (masterOK_of_discipline _ disPwm_discipline)
    (slaveOK_of_glue C01.pwm_slave_ok) chainPh_link h hA hB (by simpa [chainPh, filtDis, St.v] using hg) hsB hsC

/-! ## Filtration → Disinfection → PWM(chlorine) -/

/-- the chlorine loop: Filtration's knowledge variable says `halt`, everything served ⇒ Disinfection in `halt`,
    chlorine dosing relay off, loop disarmed (hypotheses as in `chain_off_when_served_ph`) -/
theorem chain_off_when_served_cl {g : TSt} (h : TReach chainCl g) (hA : g.todoA = []) (hB : g.todoB = [])
    (hg : g.a.v Filtration.v_rq_Disinfection = N.halt_) (hsB : noMaster g.inboxB) (hsC : noMaster g.inboxC) :
    g.b.leaf = Disinfection.leaf_halt ∧ g.c.v PWM.v_dev_pump = 0 ∧ g.c.armed = none := by
  have hb : g.b.leaf = Disinfection.leaf_halt :=
    filtDis_halted_when_served (treach_projAB chainCl h) hA hg hsB
  exact ⟨hb, disPwmCl_composed_halt (treach_projBC chainCl h) hB hb hsC⟩

example : ∃ g, TReach chainCl g ∧ g.todoA = [] ∧ g.todoB = [] ∧ g.a.v Filtration.v_rq_Disinfection = N.halt_ ∧
    noMaster g.inboxB ∧ noMaster g.inboxC :=
  ⟨tinit chainCl, TReach.init, rfl, rfl, by decide, nofun, nofun⟩

/-- **C02, every no-treatment phase, chlorine loop** -/
theorem chain_no_treatment_cl {g : TSt} (h : TReach chainCl g) (hA : g.todoA = []) (hB : g.todoB = [])
    (hm : noTreatment g.a.leaf = true) (hsB : noMaster g.inboxB) (hsC : noMaster g.inboxC) :
    g.b.leaf = Disinfection.leaf_halt ∧ g.c.v PWM.v_dev_pump = 0 ∧ g.c.armed = none := by
  have hb : g.b.leaf = Disinfection.leaf_halt :=
    filtDis_composed_no_treatment (treach_projAB chainCl h) hA hm hsB
  exact ⟨hb, disPwmCl_composed_halt (treach_projBC chainCl h) hB hb hsC⟩

/-- **C02, halt, chlorine loop** (hypotheses each necessary: `chain_hypotheses_needed_cl`) -/
theorem chain_halt_cl {g : TSt} (h : TReach chainCl g) (hA : g.todoA = []) (hB : g.todoB = [])
    (hm : g.a.leaf = Filtration.leaf_halt) (hsB : noMaster g.inboxB) (hsC : noMaster g.inboxC) :
    g.b.leaf = Disinfection.leaf_halt ∧ g.c.v PWM.v_dev_pump = 0 ∧ g.c.armed = none :=
  chain_no_treatment_cl h hA hB (by rw [hm]; decide) hsB hsC

example : ∃ g1 g2, TReach chainCl g1 ∧ g1.c.v PWM.v_dev_pump = 1 ∧
    run3 chainCl (chainStop (.plain Filtration.m_halt) Filtration.leaf_halt 61) g1 = some g2 ∧
    TReach chainCl g2 ∧ g2.todoA = [] ∧ g2.todoB = [] ∧ g2.a.leaf = Filtration.leaf_halt ∧
    noMaster g2.inboxB ∧ noMaster g2.inboxC := demo_states chainCl_demo_halt

example : ∃ g1 g2, TReach chainCl g1 ∧ g1.c.v PWM.v_dev_pump = 1 ∧
    run3 chainCl (chainStop (.plain Filtration.m_wash) Filtration.leaf_wash_backwash 61) g1 = some g2 ∧
    TReach chainCl g2 ∧ g2.todoA = [] ∧ g2.todoB = [] ∧ noTreatment g2.a.leaf = true ∧
    noMaster g2.inboxB ∧ noMaster g2.inboxC := by
  obtain ⟨g1, g2, r1, hp, hrun, r2, hA, hB, ha, hsB, hsC⟩ := demo_states chainCl_demo_wash
  exact ⟨g1, g2, r1, hp, hrun, r2, hA, hB, by rw [ha]; decide, hsB, hsC⟩

theorem chain_hypotheses_needed_cl :
    needed chainCl 68 [stopA (.plain Filtration.m_halt) Filtration.leaf_halt]
      (fun g => !g.todoA.isEmpty && g.todoB.isEmpty && servedB g && servedC g) = some true ∧
    needed chainCl 68 [stopA (.plain Filtration.m_halt) Filtration.leaf_halt, .drainA]
      (fun g => g.todoA.isEmpty && g.todoB.isEmpty && !servedB g && servedC g) = some true ∧
    needed chainCl 68 [stopA (.plain Filtration.m_halt) Filtration.leaf_halt, .drainA, stopB 61]
      (fun g => g.todoA.isEmpty && !g.todoB.isEmpty && servedB g && servedC g &&
        g.b.leaf == Disinfection.leaf_halt) = some true ∧
    needed chainCl 68 [stopA (.plain Filtration.m_halt) Filtration.leaf_halt, .drainA, stopB 61, .drainB]
      (fun g => g.todoA.isEmpty && g.todoB.isEmpty && servedB g && !servedC g &&
        g.b.leaf == Disinfection.leaf_halt) = some true := by decide +kernel

end Poupool.Compose3Props
