import Poupool.Properties.C01
/-!
# C06  Heat pump runs only with flow, with post-run flow and a rest period

(a) `filtration_heat_interlock`: Filtration's last word to Heating is `force` only in `comfort`; outside
    `heating_running` it knows Heating is not in its scheduled `heating` phase (told `wait`/`halt`, or answered);
    in `heating_running`, `comfort` and the three `heating_delay_*` phases the variable pump runs at speed 2.
    With `C01.heating_off_unless_heating_or_forcing`, `C01.glue_heating_not_forcing`, `C01.glue_heating_not_heating`:
    settled ∧ heat pump enabled ⇒ (Heating = heating ∧ Filtration = heating_running) ∨ (forcing ∧ comfort).
(b) the delay phases keep the pump running and are left only by their own timeout (`heating_delayed`, armed with
    delay_to_eco / delay_to_open, C08) or by halt / a mode request arriving later.
(c) `heating_recovering_exits`: the only ways out of `recovering` are `recover_done` (armed with recover_period when
    the phase is entered, C08) and `halt`; the heat pump is switched on only when entering `heating`/`forcing`,
    which cannot be entered from `recovering`.
-/
namespace Poupool.C06
open Poupool.Gen

def heatInterlockOK (s : St) : Bool :=
  !s.bad &&
  (s.v Filtration.v_rq_Heating != N.force_ || (s.leaf == Filtration.leaf_comfort && s.v Filtration.v_dev_variable == 2)) &&
  (s.v Filtration.v_ks_Heating == 1 || s.leaf == Filtration.leaf_heating_running) &&
  (!([Filtration.leaf_heating_running, Filtration.leaf_comfort, Filtration.leaf_heating_delay_none,
      Filtration.leaf_heating_delay_standby, Filtration.leaf_heating_delay_overflow].contains s.leaf)
    || s.v Filtration.v_dev_variable == 2)

theorem filtration_heat_interlock : ∀ s, Reach filtrationSafetyDesc s → heatInterlockOK s = true :=
  invariant_of_closed _ _ _ Cert.filtrationSafety_closed (by decide +kernel)

example : (statesOf filtrationSafetyReach).any (fun s => s.v Filtration.v_rq_Heating == N.force_) = true := by
  decide +kernel

/-- rows out of `recovering`: only `recover_done` and `halt`; rows into `heating`/`forcing`: never from `recovering` -/
def recoveringExits : Bool :=
  ((heatingRows.getD Heating.leaf_recovering []).all fun r =>
      r.trig == Heating.m_recover_done || r.trig == Heating.m_halt) &&
  (heatingRows.all fun rs => rs.all fun r =>
      !(r.dest == Heating.leaf_heating || r.dest == Heating.leaf_forcing) ||
        (r.src == Heating.leaf_halt || r.src == Heating.leaf_waiting))

theorem heating_recovering_exits : recoveringExits = true := by decide +kernel

/-- the row into `heating` is guarded by `filtration_allow_heating` -/
def heatGuarded : Bool :=
  heatingRows.all fun rs => rs.all fun r =>
    !(r.dest == Heating.leaf_heating && r.src != Heating.leaf_heating) || r.req.contains (Heating.g_filtration_allow_heating, true)

theorem heating_start_is_guarded : heatGuarded = true := by decide +kernel

/-- comfort → standby is refused when the pump would stop (standby speed 0) -/
def comfortStandbyGuarded : Bool :=
  (filtrationRows.getD Filtration.leaf_comfort []).all fun r =>
    !(r.trig == Filtration.m_standby) || r.req.contains (Filtration.g_pump_stopped_in_standby, false)

theorem comfort_to_standby_is_guarded : comfortStandbyGuarded = true := by decide +kernel

/-- (b) on the regenerated transition table: whatever the trigger and the guard valuation, `heating_running` is left only towards one
of the three `heating_delay_*` phases or `halt` — no path lets the pump stop or the cover move right after the heat pump without the
post-run circulation; and a `heating_delay_*` phase is left only by its own timeout `heating_delayed`, by `halt`, or (towards another
delay phase) by `heating_delay` / a request to open the pool. -/
def delayLeaves : List Nat := [Filtration.leaf_heating_delay_none, Filtration.leaf_heating_delay_standby, Filtration.leaf_heating_delay_overflow]

def heatingRunningExits : Bool :=
  ((filtrationRows.getD Filtration.leaf_heating_running []).all fun r =>
      r.internal || r.dest == Filtration.leaf_heating_running || r.dest == Filtration.leaf_halt || delayLeaves.contains r.dest) &&
  (delayLeaves.all fun l => (filtrationRows.getD l []).all fun r =>
      r.internal || r.dest == Filtration.leaf_halt || delayLeaves.contains r.dest || r.trig == Filtration.m_heating_delayed)

theorem heating_running_exits : heatingRunningExits = true := by decide +kernel

/-- non-vacuity: there are rows out of `heating_running` into a delay phase and out of a delay phase by its timeout -/
example : ((filtrationRows.getD Filtration.leaf_heating_running []).any fun r => delayLeaves.contains r.dest) = true ∧
    ((filtrationRows.getD Filtration.leaf_heating_delay_none []).any fun r => r.trig == Filtration.m_heating_delayed && !delayLeaves.contains r.dest) = true := by
  decide +kernel

end Poupool.C06
