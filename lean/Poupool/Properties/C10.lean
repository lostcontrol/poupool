/-
  C10  Eco mode delivers the configured daily filtration time.
  (a) `EcoMode.compute`: phase lengths never negative, tank phase never shorter than a minute, the assertions of the source
  cannot fire for settings the dispatcher lets through.  (b) `Timer`.  (c) the closed loop along timer expiries: the accounting,
  and the bounds that every finished day records (invariants: Proofs/EcoLoop.lean).  (d) whole days in closed form
  (Proofs/EcoDayInv.lean).  (e) heating polls count and have no quota cut-off.  (f) a whole day with one heating interlude.
  (g) any number of heating days.  (h) several interludes in one day.  (i) an interlude that spans the reset: not covered, and why.
-/
import Poupool.Proofs.EcoArith
import Poupool.Proofs.EcoLoopStep
import Poupool.Proofs.EcoDayInv
import Poupool.Proofs.EcoInterlude
import Poupool.Proofs.EcoAfterHeat
import Poupool.Proofs.EcoHeatDays
import Poupool.Proofs.EcoLongRuns

namespace Poupool.Eco
open Poupool.Generated

/-! ### (a) compute -/

/-- For EVERY EcoMode state (any daily duration, period, tank percentage, elapsed time, clock, reset instant):
the computed pool phase is positive, the pause is not negative, the tank phase lasts at least a minute. -/
theorem C10_compute_phases (e : EcoMode) (now : Int) :
    0 < (e.compute now).onD ∧ 0 ≤ (e.compute now).offD ∧ 60 * US ≤ (e.compute now).tankD := by
  have p := compute_plan e now
  have htk := cfg_tankMin
  have : US = 1000000 := rfl
  have htank : EcoConfig.tankMinUs ≤ (e.compute now).tankD := tankOf_ge e now
  exact ⟨p.hon, p.hoff, by omega⟩

example : ((Params.ecoMode ⟨36000, 3, 1, 10, 0, 1, 0⟩).compute 0).onD = 10800000000
    ∧ ((Params.ecoMode ⟨36000, 3, 1, 10, 0, 1, 0⟩).compute 0).offD = 16800000000
    ∧ ((Params.ecoMode ⟨36000, 3, 1, 10, 0, 1, 0⟩).compute 0).tankD = 1200000000 := by decide

/-- The division `remaining_duration / remaining_periods` never divides by zero. -/
theorem C10_compute_periods_pos (e : EcoMode) : 1 ≤ e.remainingPeriods := by
  unfold EcoMode.remainingPeriods; omega

example : (Params.ecoMode ⟨36000, 3, 1, 10, 0, 0, 0⟩).remainingPeriods = 3 := by decide

/-- `assert self.period_duration > timedelta()` holds for every daily duration of at least one second and every
period count 1..10 (the dispatcher's ranges): the period lasts at least 0.1 s. -/
theorem C10_period_duration_pos (daily period : Int) (hd : 1 * US ≤ daily) (hp1 : 1 ≤ period) (hp2 : period ≤ 10) :
    100000 ≤ divNearest daily period := by
  have : US = 1000000 := rfl
  have h := divNearest_mono (100000 * period) daily period (by omega) (by omega)
  rwa [divNearest_mul_self _ _ (by omega)] at h

example : divNearest (1 * US) 10 = 100000 := by decide

/-- … and after the two setters the state passes both assertions. -/
theorem C10_assert_ok (e : EcoMode) (dailyS period : Int) (hd : EcoConfig.dailyMinS ≤ dailyS)
    (hp1 : EcoConfig.periodMin ≤ period) (hp2 : period ≤ EcoConfig.periodMax) :
    ((e.fltDuration dailyS).setPeriod period).assertOk = true ∧ ((e.setPeriod period).fltDuration dailyS).assertOk = true := by
  have h1 : EcoConfig.dailyMinS = 1 := by decide
  have h2 : EcoConfig.periodMin = 1 := by decide
  have h3 : EcoConfig.periodMax = 10 := by decide
  have hu : US = 1000000 := rfl
  have key := C10_period_duration_pos (dailyS * US) period (by rw [hu]; omega) (by omega) (by omega)
  -- in either order the period duration is `divNearest (dailyS * US) period`
  have hpos : 0 < divNearest (dailyS * US) period := by omega
  simp only [EcoMode.fltDuration_eq cfg_keep]
  exact ⟨decide_eq_true hpos, decide_eq_true hpos⟩

example : ((EcoMode.init 0).fltDuration 1 |>.setPeriod 10).periodDuration = 100000 := by decide

/-- Resolution corner: with timedelta's microsecond resolution the period duration rounds to zero exactly when
`2 * daily ≤ period` (µs) — e.g. daily = 5 µs, period = 10 — and then the assertion kills the actor.  Not
reachable through the dispatcher (whole seconds ≥ 1), reachable only by calling the setter directly. -/
theorem C10_period_duration_zero_iff (daily period : Int) (hd : 0 ≤ daily) (hp : 0 < period) :
    ((EcoMode.init 0).setDaily daily |>.setPeriod period).assertOk = false ↔ 2 * daily ≤ period := by
  have := divNearest_pos_iff daily period hd hp
  show decide (0 < divNearest daily period) = false ↔ _
  rw [decide_eq_false_iff_not]
  omega

example : ((EcoMode.init 0).setDaily 5 |>.setPeriod 10).assertOk = false := by decide
example : ((EcoMode.init 0).setDaily 6 |>.setPeriod 10).assertOk = true := by decide

/-! ### (b) Timer -/

/-- the accounted duration never decreases when the clock does not run backwards (factor ≥ 0) -/
theorem C10_timer_monotone (t : Timer) (now fnum fden : Int) (hf : 0 ≤ fnum) (hd : 0 < fden)
    (hl : ∀ l, t.last = some l → l ≤ now) : t.duration ≤ (t.update now fnum fden).duration := by
  unfold Timer.update
  cases h : t.last with
  | none => simp
  | some l =>
    have := divNearest_nonneg ((now - l) * fnum) fden (Int.mul_nonneg (by have := hl l h; omega) hf) hd
    simp only [scale]; omega

example : ((Timer.mk 5 (some 10) 100).update 30 1 2).duration = 15 := by decide

/-- factor 1: two successive updates add exactly what one update over the whole interval adds -/
theorem C10_timer_additive (t : Timer) (a b : Int) :
    ((t.update a 1 1).update b 1 1).duration = (match t.last with | some _ => (t.update b 1 1).duration | none => t.duration + (b - a))
    ∧ ((t.update a 1 1).update b 1 1).last = some b := by
  unfold Timer.update
  cases h : t.last with
  | none => simp [scale_one]
  | some l => simp [scale_one]; omega

example : (((Timer.mk 0 (some 10) 100).update 20 1 1).update 45 1 1).duration = 35 := by decide

/-- factor 0 (eco_waiting, eco_compute, standby with the pump stopped) adds nothing -/
theorem C10_timer_factor_zero (t : Timer) (now : Int) : (t.update now 0 1).duration = t.duration := by
  rw [Timer.update_eq, Timer.gain_zero]
  exact Int.add_zero _

example : ((Timer.mk 7 (some 10) 100).update 99 0 1).duration = 7 := by decide

theorem C10_timer_elapsed_iff (t : Timer) : t.elapsed = true ↔ t.remaining = 0 := by
  unfold Timer.elapsed Timer.remaining
  simp only [decide_eq_true_eq]; omega

example : (Timer.mk 100 none 100).elapsed = true ∧ (Timer.mk 99 none 100).remaining = 1 := by decide


/-! ### (c) closed loop

Runs of `ecoStep` made of `tick` events (timer expiries; no heating interlude, no setting change), every handler
at most `eps` late, from the instant the pool enters eco (`Loop.start`).  A *day* lies between two polls that see
the daily reset; `on` is the pump-on time of the day, `dur` the value of `filtration.duration` just before the
reset.  The model records with every finished day the bounds it claims (`lb`, `ub`, `u`) — they are computed by
the executable model, printed by the driver for every real-code day of the correspondence runs, and are:
  `ub = daily + poll + eps`,
  `lb = min daily (dc + rc) - slackOf eps j n`,  `slackOf eps j n = j + n * (poll + eps) + n`,
where `dc`, `rc` = accounted duration and time to the reset at the day's last `compute`, `n` its period count and
`j`, `u` the allowances accumulated by `ecoStep` (compute delay + `eps` at a compute, `2 * eps` per phase entry for
`j`; compute delay + `eps`, `eps`..`2 * eps` per phase entry and `2 * eps` per reload for `u`). -/

/-- Accounting, at every instant of such a run, for a day that started at a reset: the pump has run at least
the accounted duration and at most the accounted duration plus the allowance `gU`; the accounted duration
exceeds the daily duration by less than a poll (the `filtration.elapsed()` cut-off). -/
theorem C10_loop_accounting (eps : Int) (p : Params) (evs : List Ev) (he : 0 ≤ eps) (he2 : eps ≤ HOUR) (hd : 0 ≤ p.dailyS)
    (hs : p.start < nextResetAt p.start p.resetHour) (hall : ∀ e ∈ evs, TickOK eps e) :
    (ecoFinal eps (Loop.start eps p).1 evs).full = true →
      (ecoFinal eps (Loop.start eps p).1 evs).eco.filtration.duration ≤ (ecoFinal eps (Loop.start eps p).1 evs).onToday
      ∧ (ecoFinal eps (Loop.start eps p).1 evs).onToday ≤
          (ecoFinal eps (Loop.start eps p).1 evs).eco.filtration.duration + (ecoFinal eps (Loop.start eps p).1 evs).gU
      ∧ (ecoFinal eps (Loop.start eps p).1 evs).eco.filtration.duration ≤
          (ecoFinal eps (Loop.start eps p).1 evs).eco.filtration.delay + EcoConfig.pollDelayUs + eps :=
  (run_inv (start_inv he he2 hd hs) hall).accounting

example : TickOK 1000 (.tick 1 0 0) ∧ (0:Int) ≤ 1000 ∧ (1000:Int) ≤ HOUR
    ∧ (28800000000 : Int) < nextResetAt 28800000000 0 := by decide

/-- Whole days (partial: tick-only runs; the slack is stated with the allowances the model records): for every
finished day that started at a reset (and had no heating interlude),  `lb ≤ dur ≤ on ≤ dur + u`  and `dur ≤ ub`;
hence  `min daily (dc + rc) - slackOf eps j n ≤ on ≤ daily + poll + eps + u`. -/
theorem C10_quota_whole_day_partial (eps : Int) (p : Params) (evs : List Ev) (he : 0 ≤ eps) (he2 : eps ≤ HOUR)
    (hd : 0 ≤ p.dailyS) (hs : p.start < nextResetAt p.start p.resetHour) (hall : ∀ e ∈ evs, TickOK eps e) :
    ∀ r ∈ (ecoFinal eps (Loop.start eps p).1 evs).days, r.full = true → r.plain = true →
      r.lb ≤ r.dur ∧ r.dur ≤ r.ub ∧ r.dur ≤ r.on ∧ r.on ≤ r.dur + r.u ∧ r.lb ≤ r.on ∧ r.on ≤ r.ub + r.u := by
  intro r hr hfull hpl
  have hinv : Inv eps (ecoFinal eps (Loop.start eps p).1 evs) := run_inv (start_inv he he2 hd hs) hall
  obtain ⟨h1, h2, h3, h4⟩ := hinv.common.hdays r hr hfull hpl
  exact ⟨h1, h2, h3, h4, by omega, by omega⟩

example : ∀ r ∈ (ecoFinal 1000 (Loop.start 1000 ⟨36000, 3, 1, 10, 0, 28800000000, 0⟩).1 [.tick 1 0 0]).days,
    r.full = true → r.plain = true → r.lb ≤ r.on :=
  fun r hr hf hp =>
    (C10_quota_whole_day_partial 1000 _ _ (by decide) (by decide) (by decide) (by decide) (by decide) r hr hf hp).2.2.2.2.1

/-- The arithmetic behind the lower bound, at the poll that sees the reset (`T` = time since the last compute,
`W` pauses completed, `cyc` cycles completed, `x` = progress of the pause in progress): with a plan of `N`
periods the accounted duration is short of `min delay (Dc + Rc)` by at most `J + N * (poll + eps) + N`. -/
theorem C10_plan_arith (delay Dc Rc D N off P J Woff W cyc credit dur T x pe : Int) (waiting : Bool)
    (hN : 1 ≤ N) (hoff : 0 ≤ off) (hP : 0 ≤ P) (hpe : 0 ≤ pe) (hW0 : 0 ≤ W) (hJ : 0 ≤ J)
    (hNoff : 2 * (N * off) ≤ max 0 (2 * (Rc - D) + N))
    (hNP : Rc ≤ P ∨ 2 * D - N ≤ 2 * (N * P))
    (hD : D = max 0 (delay - Dc))
    (hW : Woff = W * (off + pe)) (hC : credit = cyc * P)
    (hWC : W + (if waiting then 1 else 0) ≤ cyc + 1)
    (hT : Rc ≤ T) (hidle : T - (dur - Dc) ≤ J + Woff + x)
    (hx : x ≤ (if waiting then off + pe else 0)) (hcred : credit ≤ dur - Dc) :
    min delay (Dc + Rc) - (J + N * pe + N) ≤ dur := by
  have := plan_arith hN hoff hP hpe hJ hNoff hNP hD hW hC hWC
    hidle hx hcred
  omega

example : min (36000 : Int) (0 + 86400) - (7 + 3 * 10 + 3) ≤ 35990 := by decide

/-- What `compute` guarantees about its plan (`n` periods, `D` remaining duration, `R` remaining time): the
pauses fit, `n * off ≤ max 0 (R - D) + n/2`, and the pool+tank phases cover the quota, `on + tank ≥ R` or
`n * (on + tank) ≥ D - n/2`. -/
theorem C10_plan_facts (e : EcoMode) (now : Int) :
    1 ≤ e.remainingPeriods
    ∧ 2 * (e.remainingPeriods * (e.compute now).offD) ≤ max 0 (2 * (e.remainingTime now - e.remainingDuration) + e.remainingPeriods)
    ∧ (e.remainingTime now ≤ (e.compute now).onD + (e.compute now).tankD
        ∨ 2 * e.remainingDuration - e.remainingPeriods ≤ 2 * (e.remainingPeriods * ((e.compute now).onD + (e.compute now).tankD))) := by
  have p := compute_plan e now
  exact ⟨p.hN, p.hNoff, p.hNP⟩

example : (Params.ecoMode ⟨36000, 3, 1, 10, 0, 1, 0⟩).remainingPeriods * ((Params.ecoMode ⟨36000, 3, 1, 10, 0, 1, 0⟩).compute 0).offD
    = 50400000000 := by decide

/-- The period count of a plan never exceeds 10 for settings the dispatcher lets through. -/
theorem C10_periods_le (daily period D : Int) (hd : 1 * US ≤ daily) (hp1 : 1 ≤ period) (hp2 : period ≤ 10) (hD : D ≤ daily) :
    max 1 (D / divNearest daily period) ≤ 10 := by
  have := periods_le_settings hd hp1 hp2 hD
  omega

example : max 1 ((36000000000 : Int) / divNearest 36000000000 7) = 6 := by decide

/-- With the allowance of a plain day of at most 10 cycles (`j ≤ compute delay + eps + 2 * eps * 34`), at most 10
periods and handlers at most 0.5 s late, the slack of the lower bound is below the property's 180 s. -/
theorem C10_slack_180 (eps j n : Int) (he : 0 ≤ eps) (he2 : eps ≤ 500001) (hn : n ≤ 10) (hn1 : 1 ≤ n)
    (hj : j ≤ EcoConfig.computeDelayUs + eps + 2 * eps * 34) : slackOf eps j n < 180 * US := by
  have hcd := cfg_cd
  have hp := cfg_poll
  have hU : US = 1000000 := rfl
  unfold slackOf
  have h1 : n * (EcoConfig.pollDelayUs + eps) ≤ 10 * (EcoConfig.pollDelayUs + eps) :=
    Int.mul_le_mul_of_nonneg_right hn (by omega)
  omega

example : slackOf 500001 (5000000 + 500001 + 2 * 500001 * 34) 10 = 144500089 := by decide

/-! ### (d) whole days in closed form (Proofs/EcoDayInv.lean)

The ghost allowances of `C10_quota_whole_day_partial` are bounded along every tick-only run: the plan of a day that
starts at a reset has `n ≤ period` periods, `dc = 0`, `DAY - 10 s - 3 eps ≤ rc ≤ DAY`; at most `n + 1` cycles are
completed, hence `j ≤ 5 s + (6 * period + 9) * eps`, `u ≤ 5 s + (4 * period + 8) * eps`.  With
  `slackLo period eps = 15 s + period * (10 s + 1 µs) + (7 * period + 12) * eps`   (≤ 156.00001 s at eps = 0.5 s, ≤ 164.20001 s at 0.6 s),
  `slackHi period eps = 15 s + (4 * period + 9) * eps`                              (≤ 39.5 s / 44.4 s)
the pump-on time of every whole day is within `[min daily 24h - slackLo, min daily 24h + slackHi]`. -/

/-- C10, whole days, tick-only runs, unconditional in the settings: for EVERY daily duration ≥ 1 s (the dispatcher
lets through 1 s .. 48 h), period count 1..10, tank percentage, reset hour, already-elapsed duration ≥ 0, start instant (not the
exact µs of a reset: hypothesis `hs`, the only instant for which `Loop.start` itself sees the reset — not covered), and every sequence of timer expiries handled at most
`eps ≤ 0.6 s` late (the simulator's real runs show ≤ 0.5 s + a few µs; the correspondence checks ≤ 0.6 s on every run): every day of the run but the first (which starts when eco is entered) starts at a reset, and the
pump-on time of every such day differs from `min daily 24h` by at most `slackLo` below and `slackHi` above — both
below the property's 180 s.  (This is the day theorem applied inductively: it speaks about all the days of the run.) -/
theorem C10_quota_whole_day (eps : Int) (p : Params) (evs : List Ev) (he : 0 ≤ eps) (he2 : eps ≤ 600000)
    (hd : 1 ≤ p.dailyS) (hp1 : 1 ≤ p.period) (hp2 : p.period ≤ 10) (hel : 0 ≤ p.elapsedS)
    (hs : p.start < nextResetAt p.start p.resetHour) (hall : ∀ e ∈ evs, TickOK eps e) :
    (∀ r ∈ (ecoFinal eps (Loop.start eps p).1 evs).days.dropLast, r.full = true)
    ∧ (∀ r ∈ (ecoFinal eps (Loop.start eps p).1 evs).days, r.full = true →
        min (p.dailyS * US) DAY - slackLo p.period eps ≤ r.on ∧ r.on ≤ min (p.dailyS * US) DAY + slackHi p.period eps)
    ∧ slackHi p.period eps ≤ slackLo p.period eps ∧ slackLo p.period eps < 180 * US := by
  obtain ⟨hst, hinv, hday⟩ := start_day_run he he2 hd hp1 hp2 hel hs hall
  have hsl := slack_le_180 he he2 hp1 hp2
  refine ⟨(seq_run eps evs (seq_start eps hs)).2, ?_, hsl.1, hsl.2.2.1⟩
  intro r hr hfull
  exact day_bounds hst (hinv.common.hdays r hr) (hday.hdays r hr) hfull

example : (0:Int) ≤ 600000 ∧ (1:Int) ≤ (⟨36000, 3, 1, 10, 0, 28800000000, 0⟩ : Params).dailyS
    ∧ (⟨36000, 3, 1, 10, 0, 28800000000, 0⟩ : Params).start < nextResetAt 28800000000 0
    ∧ (∀ e ∈ List.replicate 20000 (Ev.tick 250000 1000 1000), TickOK 500000 e) :=
  ⟨by decide, by decide, by decide, fun _ he => List.eq_of_mem_replicate he ▸ by decide⟩

/-- the closed-form slack: values at the corners of the quantifier -/
theorem C10_slack_closed_form (per eps : Int) (he : 0 ≤ eps) (he2 : eps ≤ 600000) (hp1 : 1 ≤ per) (hp2 : per ≤ 10) :
    slackLo per eps = 15 * US + per * (10 * US + 1) + (7 * per + 12) * eps
    ∧ slackHi per eps = 15 * US + (4 * per + 9) * eps
    ∧ slackHi per eps ≤ slackLo per eps ∧ slackLo per eps ≤ 164 * US + 200010
    ∧ (eps ≤ 500000 → slackLo per eps ≤ 156 * US + 10) := by
  have hU : US = 1000000 := rfl
  have hsl := slack_le_180 he he2 hp1 hp2
  have e1 : (7 * per + 12) * eps = 7 * (per * eps) + 12 * eps := by
    rw [Int.add_mul, Int.mul_assoc]
  have e2 : (4 * per + 9) * eps = 4 * (per * eps) + 9 * eps := by
    rw [Int.add_mul, Int.mul_assoc]
  refine ⟨?_, ?_, hsl.1, ?_, ?_⟩
  · rw [e1, hU]; unfold slackLo; omega
  · rw [e2, hU]; unfold slackHi; omega
  · rw [hU]; exact hsl.2.1
  · intro h; rw [hU]; exact hsl.2.2.2 h

example : slackLo 10 500000 = 156000010 ∧ slackLo 10 600000 = 164200010 ∧ slackHi 10 600000 = 44400000 ∧ slackLo 1 0 = 25000001 := by decide

/-- the ghost values in closed form (the allowances that `C10_quota_whole_day_partial` leaves as the model records them): for every finished whole day,
`n ≤ period`, `j ≤ 5 s + (6 * period + 9) * eps`, `u ≤ 5 s + (4 * period + 8) * eps`, the claimed bounds are
`ub = daily + 10 s + eps` and `lb ≥ min daily (24 h - 10 s - 3 eps) - slackOf eps j n`, and the day is plain. -/
theorem C10_ghosts_closed_form (eps : Int) (p : Params) (evs : List Ev) (he : 0 ≤ eps) (he2 : eps ≤ 600000)
    (hd : 1 ≤ p.dailyS) (hp1 : 1 ≤ p.period) (hp2 : p.period ≤ 10) (hel : 0 ≤ p.elapsedS)
    (hs : p.start < nextResetAt p.start p.resetHour) (hall : ∀ e ∈ evs, TickOK eps e) :
    ∀ r ∈ (ecoFinal eps (Loop.start eps p).1 evs).days, r.plain = true ∧ (r.full = true →
      1 ≤ r.n ∧ r.n ≤ p.period
      ∧ r.j ≤ EcoConfig.computeDelayUs + 6 * (p.period * eps) + 9 * eps
      ∧ r.u ≤ EcoConfig.computeDelayUs + 4 * (p.period * eps) + 8 * eps
      ∧ min (p.dailyS * US) (DAY - EcoConfig.pollDelayUs - 3 * eps) - slackOf eps r.j r.n ≤ r.lb
      ∧ r.ub = p.dailyS * US + EcoConfig.pollDelayUs + eps
      ∧ r.on ≤ DAY + EcoConfig.pollDelayUs + 3 * eps) := by
  exact (start_day_run he he2 hd hp1 hp2 hel hs hall).2.2.hdays

example : (5000000 : Int) + 6 * (10 * 500000) + 9 * 500000 = 39500000 := by decide

/-! ### (e) heating interludes (Proofs/EcoInterlude.lean)

`heating_running` polls account the whole time at factor 1 and add it to the pump-on time; they never look at the
quota.  Hence scheduled heating time counts towards the quota (lower bound) and a heating interlude that lasts beyond
the quota necessarily exceeds it: the statement read literally ("runs for the configured daily duration to within
3 minutes") is false — open known finding `Filtration.eco-cycle:quota-exceeded-by-late-heating`; the monitor bounds the
pump time by max(quota, pump time at the end of the day's last heating interlude) + 180 s instead. -/

/-- One poll of `heating_running` (pump on, timers polled at `now`, poll armed), handled `j0 ≥ 0` late and before the
reset: the state is again a polled `heating_running` state and the whole interval is added both to the accounted
filtration duration and to the pump-on time of the day — for EVERY daily duration and every accounted duration (no
`filtration.elapsed()` cut-off). -/
theorem C10_heating_poll_counts (eps : Int) (s : Loop) (j0 j1 j2 : Int) (h : HeatPolled s) (hj : 0 ≤ j0)
    (hnr : s.now + EcoConfig.pollDelayUs + j0 < s.eco.nextReset) :
    HeatPolled (ecoStep eps s (.tick j0 j1 j2)).1
    ∧ (ecoStep eps s (.tick j0 j1 j2)).1.now = s.now + EcoConfig.pollDelayUs + j0
    ∧ (ecoStep eps s (.tick j0 j1 j2)).1.onToday = s.onToday + (EcoConfig.pollDelayUs + j0)
    ∧ (ecoStep eps s (.tick j0 j1 j2)).1.eco.filtration.duration = s.eco.filtration.duration + (EcoConfig.pollDelayUs + j0) := by
  obtain ⟨p1, p2, p3, p4, _⟩ := heating_poll eps s j0 j1 j2 h hj hnr
  exact ⟨p1, p2, p3, p4⟩

/-- the state of the counterexample below after `eco` at 23:59:50, the reset poll, `eco_waiting`, `heat`, first poll -/
def cexParams : Params := ⟨25200, 8, 0, 1, 0, 86390000000, 0⟩
def cexPrefix : List Ev := [.tick 0 0 0, .tick 0 0 0, .tick 0 0 0, .tick 0 0 0, .tick 0 0 0, .heat 1000000, .tick 0 0 0]

theorem cexPrefix_polled : HeatPolled (ecoFinal 0 (Loop.start 0 cexParams).1 cexPrefix) := ⟨by decide, by decide, by decide, by decide⟩

example : HeatPolled (ecoFinal 0 (Loop.start 0 cexParams).1 cexPrefix) := cexPrefix_polled

/-- `n` on-time polls of `heating_running` before the reset add `n * 10 s` to the pump-on time of the day and to the
accounted duration, whatever the quota. -/
theorem C10_heating_polls_no_cutoff (eps : Int) (n : Nat) (s : Loop) (h : HeatPolled s)
    (hnr : s.now + n * EcoConfig.pollDelayUs < s.eco.nextReset) :
    (ecoFinal eps s (List.replicate n (.tick 0 0 0))).onToday = s.onToday + n * EcoConfig.pollDelayUs
    ∧ (ecoFinal eps s (List.replicate n (.tick 0 0 0))).eco.filtration.duration = s.eco.filtration.duration + n * EcoConfig.pollDelayUs
    ∧ (ecoFinal eps s (List.replicate n (.tick 0 0 0))).pumpOn = true
    ∧ (ecoFinal eps s (List.replicate n (.tick 0 0 0))).full = s.full := by
  obtain ⟨q1, _, q3, q4, _, q6⟩ := heating_polls eps n s h hnr
  exact ⟨q3, q4, q1.hpump, q6⟩

example : (ecoFinal 0 (Loop.start 0 cexParams).1 cexPrefix).now + (2540 : Nat) * EcoConfig.pollDelayUs
    < (ecoFinal 0 (Loop.start 0 cexParams).1 cexPrefix).eco.nextReset := by decide

/-- The literal reading of the upper bound is FALSE (model witness of the open known finding
`Filtration.eco-cycle:quota-exceeded-by-late-heating`): daily duration 7 h, 8 periods, every handler on time; the pool
enters eco at 23:59:50, the reset poll at 00:00:05 starts a whole day, the scheduled heating starts at 00:00:11 and
lasts longer than the quota; after 2540 heating polls (07:03:31) the pump has run 25405 s on a day configured for
25200 s, more than 180 s over the quota (and it keeps running as long as the heating lasts; the pump-on time of a day
never decreases).  The real-code replay of the finding (heating 21:00 – 23:25 after the eco cycle has used 6 h 07 min:
8 h 32 min 26 s, the same value in this model) is `checks/c10.py LATE_HEATING`. -/
theorem C10_quota_literal_upper_late_heating_counterexample :
    ∃ (p : Params) (evs : List Ev), p.dailyS = 25200 ∧ p.period = 8
      ∧ evs = cexPrefix ++ List.replicate 2540 (.tick 0 0 0)
      ∧ (ecoFinal 0 (Loop.start 0 p).1 evs).full = true
      ∧ (ecoFinal 0 (Loop.start 0 p).1 evs).pumpOn = true
      ∧ (ecoFinal 0 (Loop.start 0 p).1 evs).onToday = 25405 * US
      ∧ (ecoFinal 0 (Loop.start 0 p).1 evs).onToday > p.dailyS * US + 180 * US := by
  refine ⟨cexParams, _, rfl, rfl, rfl, ?_⟩
  obtain ⟨q1, -, q3, q4⟩ := C10_heating_polls_no_cutoff 0 2540 _ cexPrefix_polled (by decide)
  rw [ecoFinal_append, q1, q3, q4]
  decide

example : cexParams.dailyS = 25200 ∧ (1 : Int) ≤ cexParams.period ∧ cexParams.period ≤ 10
    ∧ cexParams.start < nextResetAt cexParams.start cexParams.resetHour ∧ TickOK 0 (.tick 0 0 0) := by decide

/-- Entry and exit of a heating interlude.  `heat` (accepted in eco_waiting / eco_normal): pump on, the accounted
duration is kept (`eco_mode.clear()` only forgets the time since the last poll), first poll armed at once.
`heating_delay` (from heating_running): the pump stays on for the configured delay (60 s), nothing is accounted,
then `eco_compute` re-plans with what is left of the quota. -/
theorem C10_heating_entry_exit (eps : Int) (s : Loop) (dt : Int) :
    ((s.phase = .waiting ∨ s.phase = .normal) →
      (ecoStep eps s (.heat dt)).1.phase = .heating ∧ (ecoStep eps s (.heat dt)).1.pumpOn = true
      ∧ (ecoStep eps s (.heat dt)).1.now = s.now + dt ∧ (ecoStep eps s (.heat dt)).1.due = s.now + dt
      ∧ (ecoStep eps s (.heat dt)).1.eco.filtration.duration = s.eco.filtration.duration
      ∧ (ecoStep eps s (.heat dt)).1.eco.filtration.last = none
      ∧ (ecoStep eps s (.heat dt)).1.onToday = s.onToday + (if s.pumpOn then dt else 0))
    ∧ (s.phase = .heating →
      (ecoStep eps s (.heatEnd dt)).1.phase = .heatDelay ∧ (ecoStep eps s (.heatEnd dt)).1.pumpOn = s.pumpOn
      ∧ (ecoStep eps s (.heatEnd dt)).1.due = s.now + dt + EcoConfig.heatingDelayToEcoUs
      ∧ (ecoStep eps s (.heatEnd dt)).1.eco.filtration.duration = s.eco.filtration.duration
      ∧ (ecoStep eps s (.heatEnd dt)).1.onToday = s.onToday + (if s.pumpOn then dt else 0)) := by
  have hon : s.onToday + (if s.pumpOn then s.now + dt - s.now else 0) = s.onToday + (if s.pumpOn then dt else 0) := by
    split <;> omega
  constructor
  · intro hp
    rw [step_heat eps s dt hp]
    exact ⟨rfl, rfl, rfl, rfl, rfl, rfl, hon⟩
  · intro hp
    rw [step_heatEnd eps s dt hp]
    exact ⟨rfl, rfl, rfl, rfl, hon⟩

example : (ecoStep 0 (ecoFinal 0 (Loop.start 0 cexParams).1 (cexPrefix.take 5)) (.heat 1000000)).1.phase = .heating
    ∧ (ecoFinal 0 (Loop.start 0 cexParams).1 (cexPrefix.take 5)).phase = .waiting
    ∧ EcoConfig.heatingDelayToEcoUs = 60000000 := by decide

/-! ### (f) whole days WITH a heating interlude (Proofs/EcoInterlude.lean: the interlude; EcoAfterHeat.lean, EcoHeatDays.lean: the day)

A *complete interlude* is `interludeEvs dt polls dt' jd j1 j2 = heat dt :: polls ++ [heatEnd dt', tick jd j1 j2]`:
`heat` arrives `dt` after the last handler of eco_waiting / eco_normal, the `polls` of heating_running follow, then
`heating_delay` and the expiry of the 60 s delay (handled `jd` late) which re-enters `eco_compute`.  `InterludeOK` are
its side conditions (`heat` / `heating_delay` arrive before the armed poll is handled, every poll is handled at most `eps`
late and before the reset, `0 ≤ jd ≤ eps`).  Constants (µs):
  `heatLoss eps            = 70 s + 3 eps`                                   (≤ 71.8 s at eps = 0.6 s)
  `slackPlan period eps    = 5 s + period * (10 s + 1 µs) + (7 * period + 9) * eps`     (≤ 152.40001 s)
  `slackLoHeat period eps  = 10 s + 3 eps + 2 * slackPlan period eps`        (≤ 174.60001 s for period ≤ 5; 316.60002 s at period = 10)
  `slackHiHeat period eps  = 100 s + (10 * period + 22) * eps`               (≤ 173.2 s). -/

/-- Interlude accounting (any state in eco_waiting / eco_normal, any settings): a complete interlude that is over before
the reset ends in `eco_compute` with the pump still on, in the same day; the pump-on time of the day has grown by EXACTLY
the time from `heat` to the expiry of the delay (plus `dt` if the pump was running), the accounted filtration duration by
that time minus at most `heatLoss eps = 70 s + 3 eps` (the 60 s delay, one poll period lost at `heating_delay`, three
handler latenesses), and never by more.  Together with the time since the last poll that `heat` drops in eco_normal
(`≤ dt ≤ 10 s + eps`) and the 5 s compute delay this is the 65–87 s per interlude observed on the real code. -/
theorem C10_heating_interlude_accounting (eps per delay : Int) (s : Loop) (dt : Int) (polls : List Ev) (dt' jd j1 j2 : Int)
    (he : 0 ≤ eps) (hph : s.phase = .waiting ∨ s.phase = .normal)
    (hper : s.eco.period = per) (hdel : s.eco.filtration.delay = delay) (hpd : s.eco.periodDuration = divNearest delay per)
    (hok : InterludeOK eps s dt polls dt' jd)
    (hnr : (ecoFinal eps s (interludeEvs dt polls dt' jd j1 j2)).now < s.eco.nextReset) :
    (ecoFinal eps s (interludeEvs dt polls dt' jd j1 j2)).phase = .compute
    ∧ (ecoFinal eps s (interludeEvs dt polls dt' jd j1 j2)).pumpOn = true
    ∧ (ecoFinal eps s (interludeEvs dt polls dt' jd j1 j2)).full = s.full
    ∧ (ecoFinal eps s (interludeEvs dt polls dt' jd j1 j2)).days = s.days
    ∧ (ecoFinal eps s (interludeEvs dt polls dt' jd j1 j2)).onToday
        = s.onToday + (if s.pumpOn then dt else 0) + ((ecoFinal eps s (interludeEvs dt polls dt' jd j1 j2)).now - (s.now + dt))
    ∧ s.eco.filtration.duration + ((ecoFinal eps s (interludeEvs dt polls dt' jd j1 j2)).now - (s.now + dt)) - heatLoss eps
        ≤ (ecoFinal eps s (interludeEvs dt polls dt' jd j1 j2)).eco.filtration.duration
    ∧ (ecoFinal eps s (interludeEvs dt polls dt' jd j1 j2)).eco.filtration.duration
        ≤ s.eco.filtration.duration + ((ecoFinal eps s (interludeEvs dt polls dt' jd j1 j2)).now - (s.now + dt))
    ∧ heatLoss eps = 70 * US + 3 * eps := by
  obtain ⟨x, hx, hnr', hdone⟩ := interlude_before_reset he hph hper hdel hpd hok hnr
  rw [hx, enterCompute_noreset eps x hnr']
  refine ⟨rfl, hdone.hpump, hdone.hfull, hdone.hdays, hdone.hon, hdone.hlo, hdone.hhi, ?_⟩
  have hU : US = 1000000 := rfl
  have hpoll := cfg_poll
  have hhd := cfg_hd
  unfold heatLoss; omega

/-- the run of the examples of this section: eco entered at 23:59:50, the reset poll starts a whole day (7 h quota,
8 periods), `heat` arrives 1 s after a poll of eco_waiting, three polls of heating_running, `heating_delay` 2 s after the
last poll, the delay expires 0.7 ms late; every handler at most 1 ms late -/
def exPre : List Ev := List.replicate 5 (.tick 500 100 100)
def exPolls : List Ev := [.tick 300 0 0, .tick 1000 0 0, .tick 0 0 0]
def exHeat : Loop := ecoFinal 1000 (Loop.start 1000 cexParams).1 exPre

example : exHeat.phase = .waiting ∧ exHeat.full = true ∧ InterludeOK 1000 exHeat 1000000 exPolls 2000000 700
    ∧ (ecoFinal 1000 exHeat (interludeEvs 1000000 exPolls 2000000 700 0 0)).now < exHeat.eco.nextReset
    ∧ (ecoFinal 1000 exHeat (interludeEvs 1000000 exPolls 2000000 700 0 0)).now - (exHeat.now + 1000000) = 82002000
    ∧ (ecoFinal 1000 exHeat (interludeEvs 1000000 exPolls 2000000 700 0 0)).onToday - exHeat.onToday = 82002000
    ∧ (ecoFinal 1000 exHeat (interludeEvs 1000000 exPolls 2000000 700 0 0)).eco.filtration.duration
        - exHeat.eco.filtration.duration = 20001000 := by decide

/- The statement aimed at:
   for every run made of ticks and complete heating interludes (any number per day, any day of the run), every handler at
   most `eps ≤ 0.6 s` late, every whole day `r` satisfies
     `min daily 24h - 180 s ≤ r.on ≤ max (min daily 24h) (pump-on time at the end of the day's last interlude) + 180 s`.
   It is FALSE as it stands for three or more interludes per day (`C10_quota_monitor_upper_three_interludes_counterexample`).
   What is proved.  This section: the day of ONE complete interlude that is over before the reset, after a tick-only history.
   `C10_quota_heating_day_partial`: the interlude is over before the accounted duration exceeds the quota by more than a poll
   (`hub`) — two-sided bound around `min daily 24h`.  `C10_quota_heating_day_monitor_partial`: no `hub`, the bound in the
   monitor's form, and the late regime of the open finding (quota used up when the delay expires: the pump stops after the
   compute delay).  Section (g): EVERY whole day of a run with any number of heating days, at most one complete interlude per
   day (`C10_quota_heating_days_partial`).  Section (h): several interludes in one day, with bounds in terms of the pump-on
   time the interludes left unaccounted (`C10_quota_heating_days_multi_partial`).
   The lower slack: `slackLoHeat` adds the slack of the plan in progress at `heat` to the slack of the plan made after the
   interlude (each with one poll of overshoot per period), below 180 s only for `period ≤ 5`; when the quota is still
   reachable after the interlude the slack is `slackPlan < 180 s` for every setting.
   Not covered: an interlude that spans the reset (section (i): the model then flags the day that starts during the interlude
   as `plain`), a closed form of the unaccounted time for `k` interludes per day, a lower slack below 180 s for `period ≥ 6`
   on heating days. -/

/-- C10, a whole day with one complete heating interlude (partial, see the comment above).  Any settings the dispatcher
lets through, any tick-only history `pre` (every handler at most `eps ≤ 0.6 s` late) that ends in a whole day in
eco_waiting / eco_normal, a complete interlude there that is over before the reset (`hnr`) and before the accounted
duration exceeds `daily + 10 s + eps` (`hub`), then any tick-only continuation `post`.  Then
 * the record `r` of that day — the one right above the days finished before `heat`, whenever the continuation reaches the
   reset — is a whole day with an interlude (`plain = false`) and
     `min daily 24h - slackLoHeat ≤ r.on ≤ min daily 24h + slackHiHeat`,
   and `daily - slackPlan ≤ r.on` if the quota was still reachable when the delay expired (`daily ≤ pump-on time + time left`);
 * at every instant: either that day is still running (same finished days, `full`, not plain; the pump has run at least the
   accounted duration plus what was unaccounted when the delay expired; the accounted duration is at most `daily + 10 s + eps`)
   or its record exists and satisfies the bounds;
 * `slackHiHeat < 180 s` and `slackPlan < 180 s` for every period count 1..10; `slackLoHeat < 180 s` for period ≤ 5. -/
theorem C10_quota_heating_day_partial (eps : Int) (p : Params) (pre : List Ev) (dt : Int) (polls : List Ev) (dt' jd j1 j2 : Int)
    (post : List Ev) (he : 0 ≤ eps) (he2 : eps ≤ 600000)
    (hd : 1 ≤ p.dailyS) (hp1 : 1 ≤ p.period) (hp2 : p.period ≤ 10) (hel : 0 ≤ p.elapsedS)
    (hs : p.start < nextResetAt p.start p.resetHour)
    (hpre : ∀ e ∈ pre, TickOK eps e) (hpost : ∀ e ∈ post, TickOK eps e)
    (hfull : (ecoFinal eps (Loop.start eps p).1 pre).full = true)
    (hph : (ecoFinal eps (Loop.start eps p).1 pre).phase = .waiting ∨ (ecoFinal eps (Loop.start eps p).1 pre).phase = .normal)
    (hok : InterludeOK eps (ecoFinal eps (Loop.start eps p).1 pre) dt polls dt' jd)
    (hnr : (ecoFinal eps (Loop.start eps p).1 (pre ++ interludeEvs dt polls dt' jd j1 j2)).now
        < (ecoFinal eps (Loop.start eps p).1 pre).eco.nextReset)
    (hub : (ecoFinal eps (Loop.start eps p).1 (pre ++ interludeEvs dt polls dt' jd j1 j2)).eco.filtration.duration
        ≤ p.dailyS * US + EcoConfig.pollDelayUs + eps) :
    (∀ r, (r :: (ecoFinal eps (Loop.start eps p).1 pre).days)
          <:+ (ecoFinal eps (Loop.start eps p).1 (pre ++ interludeEvs dt polls dt' jd j1 j2 ++ post)).days →
        r.full = true ∧ r.plain = false
        ∧ min (p.dailyS * US) DAY - slackLoHeat p.period eps ≤ r.on
        ∧ (p.dailyS * US ≤ (ecoFinal eps (Loop.start eps p).1 (pre ++ interludeEvs dt polls dt' jd j1 j2)).onToday
              + ((ecoFinal eps (Loop.start eps p).1 pre).eco.nextReset
                 - (ecoFinal eps (Loop.start eps p).1 (pre ++ interludeEvs dt polls dt' jd j1 j2)).now) →
            p.dailyS * US - slackPlan p.period eps ≤ r.on)
        ∧ r.on ≤ min (p.dailyS * US) DAY + slackHiHeat p.period eps)
    ∧ (((ecoFinal eps (Loop.start eps p).1 (pre ++ interludeEvs dt polls dt' jd j1 j2 ++ post)).days
            = (ecoFinal eps (Loop.start eps p).1 pre).days
          ∧ (ecoFinal eps (Loop.start eps p).1 (pre ++ interludeEvs dt polls dt' jd j1 j2 ++ post)).full = true
          ∧ (ecoFinal eps (Loop.start eps p).1 (pre ++ interludeEvs dt polls dt' jd j1 j2 ++ post)).gPlain = false
          ∧ (ecoFinal eps (Loop.start eps p).1 (pre ++ interludeEvs dt polls dt' jd j1 j2 ++ post)).eco.filtration.duration
              + ((ecoFinal eps (Loop.start eps p).1 (pre ++ interludeEvs dt polls dt' jd j1 j2)).onToday
                 - (ecoFinal eps (Loop.start eps p).1 (pre ++ interludeEvs dt polls dt' jd j1 j2)).eco.filtration.duration)
              ≤ (ecoFinal eps (Loop.start eps p).1 (pre ++ interludeEvs dt polls dt' jd j1 j2 ++ post)).onToday
          ∧ (ecoFinal eps (Loop.start eps p).1 (pre ++ interludeEvs dt polls dt' jd j1 j2 ++ post)).eco.filtration.duration
              ≤ p.dailyS * US + EcoConfig.pollDelayUs + eps)
        ∨ ∃ r, (r :: (ecoFinal eps (Loop.start eps p).1 pre).days)
            <:+ (ecoFinal eps (Loop.start eps p).1 (pre ++ interludeEvs dt polls dt' jd j1 j2 ++ post)).days)
    ∧ slackHiHeat p.period eps < 180 * US ∧ slackPlan p.period eps < 180 * US
    ∧ (p.period ≤ 5 → slackLoHeat p.period eps < 180 * US) := by
  obtain ⟨hst, hG0, -⟩ := start_good he he2 hd hp1 hp2 hel hs
  have hG := (good_run hst hG0 hpre).1
  rw [ecoFinal_append, ecoFinal_append] at *
  refine ⟨fun r hr => ?_, heat_day_early_run hst hG.ready hfull hph hok rfl hnr hub hpost rfl,
    hst.slackHiHeat_lt, hst.slackPlan_lt, hst.slackLoHeat_lt⟩
  obtain ⟨r1, r2, hL, hF⟩ := heat_day hst hG hfull hph hok rfl hnr hpost hr
  obtain ⟨b1, -, -, b4⟩ := heat_day_bounds hst hL hF
  exact ⟨r1, r2, b1, b4 hub⟩

def exPost : List Ev := [.tick 10 20 30, .tick 1 2 3]

/-- the hypotheses of `C10_quota_heating_day_partial` hold on the run of this section (quota 7 h; when the delay expires
20.001 s are accounted, 87.0027 s of pump-on time, and the quota is still reachable) … -/
example : (0:Int) ≤ 1000 ∧ (1000:Int) ≤ 600000 ∧ 1 ≤ cexParams.dailyS ∧ 1 ≤ cexParams.period ∧ cexParams.period ≤ 10
    ∧ 0 ≤ cexParams.elapsedS ∧ cexParams.start < nextResetAt cexParams.start cexParams.resetHour
    ∧ (∀ e ∈ exPre, TickOK 1000 e) ∧ (∀ e ∈ exPost, TickOK 1000 e)
    ∧ (ecoFinal 1000 (Loop.start 1000 cexParams).1 exPre).full = true
    ∧ (ecoFinal 1000 (Loop.start 1000 cexParams).1 exPre).phase = .waiting
    ∧ InterludeOK 1000 (ecoFinal 1000 (Loop.start 1000 cexParams).1 exPre) 1000000 exPolls 2000000 700
    ∧ (ecoFinal 1000 (Loop.start 1000 cexParams).1 (exPre ++ interludeEvs 1000000 exPolls 2000000 700 0 0)).now
        < (ecoFinal 1000 (Loop.start 1000 cexParams).1 exPre).eco.nextReset
    ∧ (ecoFinal 1000 (Loop.start 1000 cexParams).1 (exPre ++ interludeEvs 1000000 exPolls 2000000 700 0 0)).eco.filtration.duration
        ≤ cexParams.dailyS * US + EcoConfig.pollDelayUs + 1000
    ∧ cexParams.dailyS * US ≤ (ecoFinal 1000 (Loop.start 1000 cexParams).1 (exPre ++ interludeEvs 1000000 exPolls 2000000 700 0 0)).onToday
        + ((ecoFinal 1000 (Loop.start 1000 cexParams).1 exPre).eco.nextReset
           - (ecoFinal 1000 (Loop.start 1000 cexParams).1 (exPre ++ interludeEvs 1000000 exPolls 2000000 700 0 0)).now) := by
  decide

/-- … and two ticks later (eco_compute → eco_waiting, first poll) the day is still running: the pump ran through the compute
delay (92.00271 s of pump-on time for 20.001 s accounted), no day was finished -/
example : (ecoFinal 1000 (Loop.start 1000 cexParams).1 (exPre ++ interludeEvs 1000000 exPolls 2000000 700 0 0 ++ exPost)).days.length
      = (ecoFinal 1000 (Loop.start 1000 cexParams).1 exPre).days.length
    ∧ (ecoFinal 1000 (Loop.start 1000 cexParams).1 (exPre ++ interludeEvs 1000000 exPolls 2000000 700 0 0 ++ exPost)).gPlain = false
    ∧ (ecoFinal 1000 (Loop.start 1000 cexParams).1 (exPre ++ interludeEvs 1000000 exPolls 2000000 700 0 0 ++ exPost)).onToday = 92002710
    ∧ (ecoFinal 1000 (Loop.start 1000 cexParams).1 (exPre ++ interludeEvs 1000000 exPolls 2000000 700 0 0 ++ exPost)).eco.filtration.duration
        = 20001000 := by decide

example : slackPlan 10 600000 = 152400010 ∧ slackLoHeat 5 600000 = 174600010 ∧ slackLoHeat 10 600000 = 316600020
    ∧ slackLoHeat 3 600000 = 117800006 ∧ slackHiHeat 10 600000 = 173200000 ∧ heatLoss 600000 = 71800000 := by decide

/-- C10, a whole day with one complete heating interlude, BOTH regimes, in the form of the monitor of checks/c10.py
(partial only in the shape of the run, see the comment above `C10_quota_heating_day_partial`).  Same hypotheses without
`hub`: whatever the accounted duration is when the interlude's delay expires (state `c`), the record `r` of that day satisfies
  `min daily 24h - slackLoHeat ≤ r.on ≤ max (min daily 24h) c.onToday + slackHiHeat`,   `slackHiHeat < 180 s`;
and in the late regime of the open finding (`daily ≤ c` accounted duration: the quota is used up when the delay expires) the
pump stops after the compute delay and stays off until the reset:
  `daily ≤ r.on`  and  `c.onToday ≤ r.on ≤ c.onToday + 5 s + eps`
— the pump-on time of the day exceeds the quota by exactly what the interlude added (no bound in terms of the quota
exists: `C10_quota_literal_upper_late_heating_counterexample`), and by nothing more than the compute delay afterwards. -/
theorem C10_quota_heating_day_monitor_partial (eps : Int) (p : Params) (pre : List Ev) (dt : Int) (polls : List Ev)
    (dt' jd j1 j2 : Int) (post : List Ev) (he : 0 ≤ eps) (he2 : eps ≤ 600000)
    (hd : 1 ≤ p.dailyS) (hp1 : 1 ≤ p.period) (hp2 : p.period ≤ 10) (hel : 0 ≤ p.elapsedS)
    (hs : p.start < nextResetAt p.start p.resetHour)
    (hpre : ∀ e ∈ pre, TickOK eps e) (hpost : ∀ e ∈ post, TickOK eps e)
    (hfull : (ecoFinal eps (Loop.start eps p).1 pre).full = true)
    (hph : (ecoFinal eps (Loop.start eps p).1 pre).phase = .waiting ∨ (ecoFinal eps (Loop.start eps p).1 pre).phase = .normal)
    (hok : InterludeOK eps (ecoFinal eps (Loop.start eps p).1 pre) dt polls dt' jd)
    (hnr : (ecoFinal eps (Loop.start eps p).1 (pre ++ interludeEvs dt polls dt' jd j1 j2)).now
        < (ecoFinal eps (Loop.start eps p).1 pre).eco.nextReset)
    (r : DayRec)
    (hr : (r :: (ecoFinal eps (Loop.start eps p).1 pre).days)
        <:+ (ecoFinal eps (Loop.start eps p).1 (pre ++ interludeEvs dt polls dt' jd j1 j2 ++ post)).days) :
    r.full = true ∧ r.plain = false
    ∧ min (p.dailyS * US) DAY - slackLoHeat p.period eps ≤ r.on
    ∧ r.on ≤ max (min (p.dailyS * US) DAY) (ecoFinal eps (Loop.start eps p).1 (pre ++ interludeEvs dt polls dt' jd j1 j2)).onToday
        + slackHiHeat p.period eps
    ∧ (p.dailyS * US ≤ (ecoFinal eps (Loop.start eps p).1 (pre ++ interludeEvs dt polls dt' jd j1 j2)).eco.filtration.duration →
        p.dailyS * US ≤ r.on
        ∧ (ecoFinal eps (Loop.start eps p).1 (pre ++ interludeEvs dt polls dt' jd j1 j2)).onToday ≤ r.on
        ∧ r.on ≤ (ecoFinal eps (Loop.start eps p).1 (pre ++ interludeEvs dt polls dt' jd j1 j2)).onToday
            + EcoConfig.computeDelayUs + eps)
    ∧ slackHiHeat p.period eps < 180 * US ∧ (p.period ≤ 5 → slackLoHeat p.period eps < 180 * US) := by
  obtain ⟨hst, hG0, -⟩ := start_good he he2 hd hp1 hp2 hel hs
  have hG := (good_run hst hG0 hpre).1
  rw [ecoFinal_append, ecoFinal_append] at *
  obtain ⟨r1, r2, hL, hF⟩ := heat_day hst hG hfull hph hok rfl hnr hpost hr
  obtain ⟨b1, b2, b3, -⟩ := heat_day_bounds hst hL hF
  exact ⟨r1, r2, b1, b2, b3, hst.slackHiHeat_lt, hst.slackLoHeat_lt⟩

/-- late-regime run for the hypotheses: quota 1 s; when the delay expires 20.001 s are accounted (quota used up), the pump
has run 82.002 s; after the compute delay it is stopped at 87.00201 s = 82.002 s + 5 s + 10 µs -/
def lateParams : Params := ⟨1, 8, 0, 1, 0, 86390000000, 0⟩

example : 1 ≤ lateParams.dailyS ∧ lateParams.start < nextResetAt lateParams.start lateParams.resetHour
    ∧ (ecoFinal 1000 (Loop.start 1000 lateParams).1 exPre).full = true
    ∧ (ecoFinal 1000 (Loop.start 1000 lateParams).1 exPre).phase = .waiting
    ∧ InterludeOK 1000 (ecoFinal 1000 (Loop.start 1000 lateParams).1 exPre) 1000000 exPolls 2000000 700
    ∧ (ecoFinal 1000 (Loop.start 1000 lateParams).1 (exPre ++ interludeEvs 1000000 exPolls 2000000 700 0 0)).now
        < (ecoFinal 1000 (Loop.start 1000 lateParams).1 exPre).eco.nextReset
    ∧ lateParams.dailyS * US
        ≤ (ecoFinal 1000 (Loop.start 1000 lateParams).1 (exPre ++ interludeEvs 1000000 exPolls 2000000 700 0 0)).eco.filtration.duration
    ∧ (ecoFinal 1000 (Loop.start 1000 lateParams).1 (exPre ++ interludeEvs 1000000 exPolls 2000000 700 0 0)).onToday = 82002000
    ∧ (ecoFinal 1000 (Loop.start 1000 lateParams).1 (exPre ++ interludeEvs 1000000 exPolls 2000000 700 0 0 ++ exPost)).onToday = 87002010
    ∧ (ecoFinal 1000 (Loop.start 1000 lateParams).1 (exPre ++ interludeEvs 1000000 exPolls 2000000 700 0 0 ++ exPost)).pumpOn = false := by
  decide

/-! ### (g) any number of heating days (Proofs/EcoDays.lean, EcoAfterHeat.lean, EcoHeatDays.lean)

The finished days never influence the behaviour (`run_withDays`), so the invariants of the tick-only proofs are kept
*modulo the finished days* (`Good`): they hold for the state with its list of finished days emptied.  The poll that sees the
reset re-establishes them whatever happened during the day (`reset_good`): a heating day is followed by days to which the
day theorems apply again.  A run is described by *segments* `Seg`: a stretch of timer expiries `pre`, then one complete
interlude (`interludeEvs dt polls dt' jd j1 j2`).  `SegsOK eps s gs` are the side conditions, segment after segment: every
tick at most `eps` late; when `heat` arrives no interlude has taken place yet since the last reset (`gPlain`, i.e. at most ONE
interlude per day), the pool is in eco_waiting / eco_normal, the interlude is well-formed (`InterludeOK`) and over before the
reset.  The run is `segsEvs gs ++ post` with a tick-only tail `post`. -/

/-- C10, EVERY whole day of a run with any number of heating days, at most one complete interlude per day, each over before
the reset (partial only in that shape, see below).  Any settings the dispatcher lets through, every handler at most
`eps ≤ 0.6 s` late.  Then every finished day but the first (which starts when eco is entered) starts at a reset, and every
whole day `r` of the run satisfies, in the form of the monitor of checks/c10.py,
  `min daily 24h - slackLoHeat ≤ r.on`;
  a day without interlude:  `min daily 24h - slackLo ≤ r.on ≤ min daily 24h + slackHi`  (the bounds of `C10_quota_whole_day`);
  a day with an interlude: it is the day of one of the segments `g` — its record lies right above the days finished when the
  `heat` of `g` arrived — and with `c` = the `eco_compute` state in which that interlude ended
     `r.on ≤ max (min daily 24h) c.onToday + slackHiHeat`,
  and in the late regime of the open finding (`daily ≤ c` accounted duration)  `daily ≤ r.on`, `c.onToday ≤ r.on ≤ c.onToday + 5 s + eps`.
`slackHi ≤ slackLo < 180 s`, `slackHiHeat < 180 s` for every period count; `slackLoHeat < 180 s` for `period ≤ 5`.
Not covered here: several interludes within one day (section (h)), an interlude that spans the reset (or that starts in the `eco_compute` /
`eco_tank` phases, where `heat` is ignored by the model), a lower slack below 180 s for `period ≥ 6` on heating days. -/
theorem C10_quota_heating_days_partial (eps : Int) (p : Params) (gs : List Seg) (post : List Ev) (he : 0 ≤ eps) (he2 : eps ≤ 600000)
    (hd : 1 ≤ p.dailyS) (hp1 : 1 ≤ p.period) (hp2 : p.period ≤ 10) (hel : 0 ≤ p.elapsedS)
    (hs : p.start < nextResetAt p.start p.resetHour)
    (hok : SegsOK eps (Loop.start eps p).1 gs) (hpost : ∀ e ∈ post, TickOK eps e) :
    (∀ r ∈ (ecoFinal eps (Loop.start eps p).1 (segsEvs gs ++ post)).days.dropLast, r.full = true)
    ∧ (∀ r ∈ (ecoFinal eps (Loop.start eps p).1 (segsEvs gs ++ post)).days, r.full = true →
        min (p.dailyS * US) DAY - slackLoHeat p.period eps ≤ r.on
        ∧ (r.plain = true →
            min (p.dailyS * US) DAY - slackLo p.period eps ≤ r.on ∧ r.on ≤ min (p.dailyS * US) DAY + slackHi p.period eps)
        ∧ (r.plain = false → ∃ gs1 g gs2, gs = gs1 ++ g :: gs2
            ∧ (r :: (ecoFinal eps (Loop.start eps p).1 (segsEvs gs1 ++ g.pre)).days)
                <:+ (ecoFinal eps (Loop.start eps p).1 (segsEvs gs ++ post)).days
            ∧ r.on ≤ max (min (p.dailyS * US) DAY) (ecoFinal eps (Loop.start eps p).1 (segsEvs gs1 ++ g.evs)).onToday
                + slackHiHeat p.period eps
            ∧ (p.dailyS * US ≤ (ecoFinal eps (Loop.start eps p).1 (segsEvs gs1 ++ g.evs)).eco.filtration.duration →
                p.dailyS * US ≤ r.on
                ∧ (ecoFinal eps (Loop.start eps p).1 (segsEvs gs1 ++ g.evs)).onToday ≤ r.on
                ∧ r.on ≤ (ecoFinal eps (Loop.start eps p).1 (segsEvs gs1 ++ g.evs)).onToday + EcoConfig.computeDelayUs + eps)))
    ∧ slackHi p.period eps ≤ slackLo p.period eps ∧ slackLo p.period eps < 180 * US
    ∧ slackHiHeat p.period eps < 180 * US ∧ (p.period ≤ 5 → slackLoHeat p.period eps < 180 * US) := by
  simp only [ecoFinal_append]
  obtain ⟨hst, hseq, hrec⟩ := heat_days_start he he2 hd hp1 hp2 hel hs (segsOK2_of_segsOK eps gs _ hok) hpost
  have hsl := slack_le_180 he he2 hp1 hp2
  have hle := slackLo_le_heat he hp1
  refine ⟨hseq, ?_, hsl.1, hsl.2.2.1, hst.slackHiHeat_lt, hst.slackLoHeat_lt⟩
  intro r hr hfull
  rcases hrec r hr with ⟨hpl, hb⟩ | ⟨gs1, g, gs2, _, _, h1, rfl, rfl, h2, hpl, hb⟩
  · obtain ⟨b1, b2⟩ := hb hfull
    exact ⟨by omega, fun _ => ⟨b1, b2⟩, fun hn => (by rw [hpl] at hn; cases hn)⟩
  · -- at most one interlude per day: the last interlude of the day is also its first
    obtain ⟨hL, hF⟩ := hb hfull
    obtain ⟨b1, b2, b3, -⟩ := heat_day_bounds hst hL (hF (segsOK_plain eps gs1 g gs2 _ (h1 ▸ hok)))
    exact ⟨b1, fun hp => (by rw [hpl] at hp; cases hp), fun _ => ⟨gs1, g, gs2, h1, h2, b2, b3⟩⟩

/-- the hypotheses hold on a run with TWO heating days (`hdParams`, `hdSeg1`, `hdSeg2`, `hdPost` in Proofs/EcoLongRuns.lean:
quota 1 s, eco entered at 23:59:50, an interlude in the first eco_waiting of day 1, 8632 polls of eco_waiting until the
reset — executed symbolically by `wait_polls`, the side conditions are then decided on the resulting state —, the same
interlude in the first eco_waiting of day 2, two more ticks) … -/
example : (0:Int) ≤ 1000 ∧ (1000:Int) ≤ 600000 ∧ 1 ≤ hdParams.dailyS ∧ 1 ≤ hdParams.period ∧ hdParams.period ≤ 10
    ∧ 0 ≤ hdParams.elapsedS ∧ hdParams.start < nextResetAt hdParams.start hdParams.resetHour
    ∧ SegsOK 1000 (Loop.start 1000 hdParams).1 [hdSeg1, hdSeg2] ∧ (∀ e ∈ hdPost, TickOK 1000 e) :=
  ⟨by decide, by decide, by decide, by decide, by decide, by decide, by decide, hd_segsOK, by decide⟩

/-- … its finished days are the partial day 0 and the whole heating day 1 (pump-on time 87.002 s for a quota of 1 s: the late
regime; 82.002 s when the delay expired); day 2 is running, not plain, 87.00201 s of pump-on time, pump stopped … -/
example : ((ecoFinal 1000 (Loop.start 1000 hdParams).1 (segsEvs [hdSeg1, hdSeg2] ++ hdPost)).days.map fun r => (r.on, r.full, r.plain))
      = [(87002000, true, false), (0, false, true)]
    ∧ (ecoFinal 1000 (Loop.start 1000 hdParams).1 (segsEvs [hdSeg1] ++ hdSeg2.pre)).days.length = 2
    ∧ (ecoFinal 1000 (Loop.start 1000 hdParams).1 (segsEvs [hdSeg1, hdSeg2] ++ hdPost)).gPlain = false
    ∧ (ecoFinal 1000 (Loop.start 1000 hdParams).1 (segsEvs [hdSeg1, hdSeg2] ++ hdPost)).onToday = 87002010
    ∧ (ecoFinal 1000 (Loop.start 1000 hdParams).1 (segsEvs [hdSeg1, hdSeg2] ++ hdPost)).pumpOn = false := by
  have e1 : (Loop.start 1000 hdParams).1 = hdStart := rfl
  have e2 : segsEvs [hdSeg1] ++ hdSeg2.pre = hdSeg1.evs ++ hdSeg2.pre := by simp [segsEvs]
  rw [e1, hd_final, e2, ecoFinal_append, hd_pre2]
  decide

/-- … and the theorem applied to it: every whole day of that run is within the bounds -/
example : ∀ r ∈ (ecoFinal 1000 (Loop.start 1000 hdParams).1 (segsEvs [hdSeg1, hdSeg2] ++ hdPost)).days, r.full = true →
    min (hdParams.dailyS * US) DAY - slackLoHeat hdParams.period 1000 ≤ r.on :=
  fun r hr hf => ((C10_quota_heating_days_partial 1000 hdParams [hdSeg1, hdSeg2] hdPost (by decide) (by decide) (by decide)
    (by decide) (by decide) (by decide) (by decide) hd_segsOK (by decide)).2.1 r hr hf).1

/-! ### (h) several interludes within one day (Proofs/EcoAfterHeat.lean: `LastBounds`; EcoHeatDays.lean)

`SegsOK2` is `SegsOK` without the condition that no interlude has taken place yet that day.  An interlude leaves pump-on time
unaccounted (`C10_heating_interlude_accounting`: up to `heatLoss = 70 s + 3 eps`, plus the poll dropped by `heat` and the
compute delay afterwards), and the plan made afterwards only looks at the ACCOUNTED duration: with several interludes per
day the unaccounted time adds up, and the pump-on time of the day exceeds the quota by it.  The bounds of a day with several
interludes are therefore stated with `U = c.onToday - c.eco.filtration.duration`, the pump-on time not accounted when the
day's LAST interlude ends in the `eco_compute` state `c` (one interlude: `U ≤ 87 s + …`, which is where `slackHiHeat` comes
from); the monitor form `max (min daily 24h) c.onToday + 180 s` does not hold for three or more interludes per day. -/

/-- C10, EVERY whole day of a run with any number of complete interludes per day, each over before the reset (partial: see
below).  Same hypotheses as `C10_quota_heating_days_partial` with `SegsOK2`.  Every whole day `r` of the run:
 * no interlude: `min daily 24h - slackLo ≤ r.on ≤ min daily 24h + slackHi` (also after days with several interludes);
 * otherwise `r` is the day whose LAST interlude is that of a segment `g` (its record lies right above the days finished when
   the `heat` of `g` arrived); with `c` the `eco_compute` state in which that interlude ended, `NR` the reset instant and
   `U = c.onToday - c accounted`:
     quota not exceeded by more than a poll at `c`:
        `min daily (c accounted + NR - c.now) - slackPlan + U ≤ r.on ≤ daily + U + 15 s + (6 period + 10) eps`
        and `r.on ≤ c.onToday + (NR - c.now) + 15 s + 2 eps`;
     quota used up at `c`:  `c.onToday ≤ r.on ≤ c.onToday + 5 s + eps`;
   and if that interlude was also the first of its day (`gPlain` when its `heat` arrived) the monitor bounds of
   `C10_quota_heating_days_partial` hold.
Not covered: a bound of `U` in terms of the number `k` of interludes of the day (each adds at most about
`heatLoss + 10 s + 5 s + lateness`, proved only for `k = 1`), hence closed lower / upper slacks `(k + 1) * slackPlan`,
`k * 87 s + …` for a day with `k` interludes; an interlude that spans the reset. -/
theorem C10_quota_heating_days_multi_partial (eps : Int) (p : Params) (gs : List Seg) (post : List Ev) (he : 0 ≤ eps)
    (he2 : eps ≤ 600000) (hd : 1 ≤ p.dailyS) (hp1 : 1 ≤ p.period) (hp2 : p.period ≤ 10) (hel : 0 ≤ p.elapsedS)
    (hs : p.start < nextResetAt p.start p.resetHour)
    (hok : SegsOK2 eps (Loop.start eps p).1 gs) (hpost : ∀ e ∈ post, TickOK eps e) :
    (∀ r ∈ (ecoFinal eps (Loop.start eps p).1 (segsEvs gs ++ post)).days.dropLast, r.full = true)
    ∧ (∀ r ∈ (ecoFinal eps (Loop.start eps p).1 (segsEvs gs ++ post)).days, r.full = true →
        (r.plain = true →
            min (p.dailyS * US) DAY - slackLo p.period eps ≤ r.on ∧ r.on ≤ min (p.dailyS * US) DAY + slackHi p.period eps)
        ∧ (r.plain = false → ∃ gs1 g gs2, gs = gs1 ++ g :: gs2
            ∧ (r :: (ecoFinal eps (Loop.start eps p).1 (segsEvs gs1 ++ g.pre)).days)
                <:+ (ecoFinal eps (Loop.start eps p).1 (segsEvs gs ++ post)).days
            ∧ ((ecoFinal eps (Loop.start eps p).1 (segsEvs gs1 ++ g.evs)).eco.filtration.duration
                  ≤ p.dailyS * US + EcoConfig.pollDelayUs + eps →
                min (p.dailyS * US) ((ecoFinal eps (Loop.start eps p).1 (segsEvs gs1 ++ g.evs)).eco.filtration.duration
                      + ((ecoFinal eps (Loop.start eps p).1 (segsEvs gs1 ++ g.pre)).eco.nextReset
                          - (ecoFinal eps (Loop.start eps p).1 (segsEvs gs1 ++ g.evs)).now))
                    - slackPlan p.period eps
                    + ((ecoFinal eps (Loop.start eps p).1 (segsEvs gs1 ++ g.evs)).onToday
                        - (ecoFinal eps (Loop.start eps p).1 (segsEvs gs1 ++ g.evs)).eco.filtration.duration) ≤ r.on
                ∧ r.on ≤ p.dailyS * US
                    + ((ecoFinal eps (Loop.start eps p).1 (segsEvs gs1 ++ g.evs)).onToday
                        - (ecoFinal eps (Loop.start eps p).1 (segsEvs gs1 ++ g.evs)).eco.filtration.duration)
                    + (EcoConfig.pollDelayUs + EcoConfig.computeDelayUs + 6 * (p.period * eps) + 10 * eps)
                ∧ r.on ≤ (ecoFinal eps (Loop.start eps p).1 (segsEvs gs1 ++ g.evs)).onToday
                    + ((ecoFinal eps (Loop.start eps p).1 (segsEvs gs1 ++ g.pre)).eco.nextReset
                        - (ecoFinal eps (Loop.start eps p).1 (segsEvs gs1 ++ g.evs)).now)
                    + EcoConfig.computeDelayUs + EcoConfig.pollDelayUs + 2 * eps)
            ∧ (p.dailyS * US ≤ (ecoFinal eps (Loop.start eps p).1 (segsEvs gs1 ++ g.evs)).eco.filtration.duration →
                (ecoFinal eps (Loop.start eps p).1 (segsEvs gs1 ++ g.evs)).onToday ≤ r.on
                ∧ r.on ≤ (ecoFinal eps (Loop.start eps p).1 (segsEvs gs1 ++ g.evs)).onToday + EcoConfig.computeDelayUs + eps)
            ∧ ((ecoFinal eps (Loop.start eps p).1 (segsEvs gs1 ++ g.pre)).gPlain = true →
                min (p.dailyS * US) DAY - slackLoHeat p.period eps ≤ r.on
                ∧ r.on ≤ max (min (p.dailyS * US) DAY) (ecoFinal eps (Loop.start eps p).1 (segsEvs gs1 ++ g.evs)).onToday
                    + slackHiHeat p.period eps)))
    ∧ slackHi p.period eps ≤ slackLo p.period eps ∧ slackLo p.period eps < 180 * US
    ∧ slackPlan p.period eps < 180 * US ∧ slackHiHeat p.period eps < 180 * US := by
  simp only [ecoFinal_append]
  obtain ⟨hst, hseq, hrec⟩ := heat_days_start he he2 hd hp1 hp2 hel hs hok hpost
  have hsl := slack_le_180 he he2 hp1 hp2
  refine ⟨hseq, ?_, hsl.1, hsl.2.2.1, hst.slackPlan_lt, hst.slackHiHeat_lt⟩
  intro r hr hfull
  rcases hrec r hr with ⟨hpl, hb⟩ | ⟨gs1, g, gs2, _, _, h1, rfl, rfl, h2, hpl, hb⟩
  · exact ⟨fun _ => hb hfull, fun hn => (by rw [hpl] at hn; cases hn)⟩
  · obtain ⟨hL, hF⟩ := hb hfull
    refine ⟨fun hp => (by rw [hpl] at hp; cases hp), fun _ => ⟨gs1, g, gs2, h1, h2, hL.1, hL.2, fun hg => ?_⟩⟩
    obtain ⟨b1, b2, -⟩ := heat_day_bounds hst hL (hF hg)
    exact ⟨b1, b2⟩

/-- the hypotheses hold on a run with TWO interludes in one day (`miParams`, `miSeg1`, `miSeg2` in Proofs/EcoLongRuns.lean:
quota 7 h; the second `heat` arrives 3 s after the first poll of the eco_waiting that follows the first interlude); it is not
a run with at most one interlude per day; when the second interlude ends 173.0042 s of pump-on time stand against 40.002 s
accounted (`U` = 133 s; a third interlude brings it above 180 s) -/
example : (0:Int) ≤ 1000 ∧ (1000:Int) ≤ 600000 ∧ 1 ≤ miParams.dailyS ∧ 1 ≤ miParams.period ∧ miParams.period ≤ 10
    ∧ 0 ≤ miParams.elapsedS ∧ miParams.start < nextResetAt miParams.start miParams.resetHour
    ∧ SegsOK2 1000 (Loop.start 1000 miParams).1 [miSeg1, miSeg2] ∧ (∀ e ∈ hdPost, TickOK 1000 e)
    ∧ ¬ SegsOK 1000 (Loop.start 1000 miParams).1 [miSeg1, miSeg2]
    ∧ (ecoFinal 1000 (Loop.start 1000 miParams).1 (segsEvs [miSeg1] ++ miSeg2.pre)).gPlain = false
    ∧ (ecoFinal 1000 (Loop.start 1000 miParams).1 (segsEvs [miSeg1] ++ miSeg2.pre)).full = true
    ∧ (ecoFinal 1000 (Loop.start 1000 miParams).1 (segsEvs [miSeg1] ++ miSeg2.evs)).onToday = 173004200
    ∧ (ecoFinal 1000 (Loop.start 1000 miParams).1 (segsEvs [miSeg1] ++ miSeg2.evs)).eco.filtration.duration = 40002000 := by
  decide

/-- The monitor form of the upper bound is FALSE for three interludes in one day (model witness; the lower bound and the
bounds of `C10_quota_heating_days_multi_partial` hold on it).  Quota 600 s, one period, every handler on time; the pool enters
eco at 23:59:50, the reset poll at 00:00:05 starts a whole day; three heating interludes of 20 s (+ the 60 s delay each) take
place in the first 4.5 minutes: when the third one ends the pump has run 261 s, of which 60 s are accounted.  The plan made
then schedules the remaining 540 s at the end of the day, the pump runs 530 s of them up to the reset poll: the pump-on time of the day is 796 s, more
than `max quota (pump-on time at the end of the last interlude) + 180 s = 780 s` — each interlude leaves about 67 s of
pump-on time unaccounted (the 60 s delay, the poll dropped at `heating_delay`, the compute delay), and the plan only looks at
the accounted duration.  (`ceSegs`, `cePost` in Proofs/EcoLongRuns.lean; the 8559 polls of the pause are executed
symbolically by `wait_polls`, the rest is decided.) -/
theorem C10_quota_monitor_upper_three_interludes_counterexample :
    ∃ (p : Params) (gs : List Seg) (post : List Ev),
      p.dailyS = 600 ∧ p.period = 1 ∧ gs.length = 3
      ∧ SegsOK2 0 (Loop.start 0 p).1 gs ∧ (∀ e ∈ post, TickOK 0 e)
      ∧ (ecoFinal 0 (Loop.start 0 p).1 (segsEvs gs)).days.length = 1
      ∧ (ecoFinal 0 (Loop.start 0 p).1 (segsEvs gs)).full = true
      ∧ (ecoFinal 0 (Loop.start 0 p).1 (segsEvs gs)).onToday = 261 * US
      ∧ (ecoFinal 0 (Loop.start 0 p).1 (segsEvs gs)).eco.filtration.duration = 60 * US
      ∧ ((ecoFinal 0 (Loop.start 0 p).1 (segsEvs gs ++ post)).days.map fun r => (r.on, r.full, r.plain))
          = [(796 * US, true, false), (10 * US, false, true)]
      ∧ 796 * US > max (min (p.dailyS * US) DAY) (ecoFinal 0 (Loop.start 0 p).1 (segsEvs gs)).onToday + 180 * US := by
  refine ⟨ceParams, ceSegs, cePost, rfl, rfl, rfl, by decide, ce_post_ok, by decide, by decide, by decide, by decide, ?_, by decide⟩
  have e1 : (Loop.start 0 ceParams).1 = ceStart := rfl
  rw [e1, ce_final]
  decide +kernel

example : ceParams.dailyS = 600 ∧ (1 : Int) ≤ ceParams.period ∧ ceParams.period ≤ 10 ∧ 0 ≤ ceParams.elapsedS
    ∧ ceParams.start < nextResetAt ceParams.start ceParams.resetHour ∧ TickOK 0 (.tick 0 0 0) ∧ ceSegs.length = 3 := by decide

/-! ### (i) an interlude that spans the reset — not covered; why the day records cannot be used as they are

`poll_heating_running` sees the reset like every other poll: the day is finished and a whole day starts with the pump running
for the heating.  `roll` marks the new day `plain` (the ghost `gPlain` is only cleared by `heat`), so the record of a day that
STARTS during an interlude claims "no interlude" although heating time counts in it: for runs with such an interlude the
classification of the days by `DayRec.plain` used in sections (d), (g), (h) is not sound.  The theorems of (g), (h) exclude these
runs (`SegOK`, `SegOK2`: the interlude is over before the reset); covering them needs a ghost that survives the reset. -/

/-- Model witness: quota 1 s, every handler on time; eco is entered at 23:58:00, `heat` arrives at 23:58:06 and the heating
lasts beyond midnight.  The poll of 00:00:06 sees the reset; 17 polls later the day that started there is a whole day, still
flagged `plain`, the pump has run 170 s (160 s accounted: the first poll interval after a reset is not accounted) — far above
the upper bound `min daily 24h + slackHi = 16 s` of a whole day without interlude. -/
theorem C10_interlude_spanning_reset_plain_flag_counterexample :
    ∃ (p : Params) (pre polls : List Ev) (dt : Int),
      p.dailyS = 1 ∧ p.period = 8 ∧ (∀ e ∈ pre, TickOK 0 e) ∧ (∀ e ∈ polls, TickOK 0 e)
      ∧ (ecoFinal 0 (Loop.start 0 p).1 pre).phase = .waiting
      ∧ (ecoFinal 0 (Loop.start 0 p).1 pre).now + dt < (ecoFinal 0 (Loop.start 0 p).1 pre).eco.nextReset
      ∧ (ecoFinal 0 (Loop.start 0 p).1 (pre ++ .heat dt :: polls)).phase = .heating
      ∧ ((ecoFinal 0 (Loop.start 0 p).1 (pre ++ .heat dt :: polls)).days.map fun r => (r.on, r.full, r.plain))
          = [(120 * US, false, false)]
      ∧ (ecoFinal 0 (Loop.start 0 p).1 (pre ++ .heat dt :: polls)).full = true
      ∧ (ecoFinal 0 (Loop.start 0 p).1 (pre ++ .heat dt :: polls)).gPlain = true
      ∧ (ecoFinal 0 (Loop.start 0 p).1 (pre ++ .heat dt :: polls)).onToday = 170 * US
      ∧ (ecoFinal 0 (Loop.start 0 p).1 (pre ++ .heat dt :: polls)).eco.filtration.duration = 160 * US
      ∧ (ecoFinal 0 (Loop.start 0 p).1 (pre ++ .heat dt :: polls)).onToday > min (p.dailyS * US) DAY + slackHi p.period 0 := by
  refine ⟨⟨1, 8, 0, 1, 0, 86280000000, 0⟩, [.tick 0 0 0, .tick 0 0 0], List.replicate 30 (.tick 0 0 0), 1000000, rfl, rfl,
    by decide, by decide, by decide, by decide, by decide, by decide, by decide, by decide, by decide, by decide, by decide⟩

example : (⟨1, 8, 0, 1, 0, 86280000000, 0⟩ : Params).start < nextResetAt 86280000000 0 ∧ slackHi 8 0 = 15 * US
    ∧ TickOK 0 (.tick 0 0 0) := by decide

end Poupool.Eco
