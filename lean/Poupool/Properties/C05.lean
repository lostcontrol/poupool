import Poupool.Generated.ActorCerts
import Poupool.Proofs.ActorLib
import Poupool.Proofs.Decisions
import Poupool.Model.Guards
import Poupool.Properties.C08
/-!
# C05 (i)  the mains fill valve is open only in the tank phases `fill` and `low`
(hysteresis and time limits: see the Tank decision theorems below, `Timing.tank_limit_phases`, `Timing.tank_polls` and the timed correspondence in checks/c05.py)
-/
namespace Poupool.C05
open Poupool.Gen

def mainValveOK (s : St) : Bool :=
  !s.bad && (s.v Tank.v_dev_main == 0 || s.leaf == Tank.leaf_fill || s.leaf == Tank.leaf_low)

theorem main_valve_only_in_fill_or_low : ∀ s, Reach tankSafetyDesc s → mainValveOK s = true :=
  invariant_of_closed _ _ _ Cert.tankSafety_closed (by decide +kernel)

/-- `halt` is accepted in every tank phase and closes the valve -/
theorem tank_halt_closes_valve :
    allSucc tankSafetyDesc tankSafetyReach (.plain Tank.m_halt)
      (fun _ s' => s'.leaf == Tank.leaf_halt && s'.v Tank.v_dev_main == 0) = true := by decide +kernel

example : (statesOf tankSafetyReach).any (fun s => s.v Tank.v_dev_main == 1) = true := by decide +kernel

/-! ## (ii) hysteresis and (iii) time limits, on the decision model (Model/Tank.lean) -/
open Poupool.Tank

/-- while the valve stays open after a poll, the measured level is below low + hysteresis (resp. ≤ too_low in fill) -/
theorem valve_kept_open_implies_below (c : Cfg) (h tis : Int) :
    (∀ n, pollLow c h tis = .rearm n → h < c.low + c.hyst) ∧ (∀ n, pollFill c h tis = .rearm n → h ≤ c.tooLow) :=
  ⟨fun _ e => (pollLow_eq_rearm.1 e).2.2.1, fun _ e => (pollFill_eq_rearm.1 e).2.2⟩

/-- it opens at the first `normal` poll that sees the level below low − hysteresis -/
theorem opens_when_below (c : Cfg) (h : Int) (hl : h < c.low - c.hyst) : pollNormal c h = .toLow :=
  pollNormal_eq_toLow.2 hl

/-- it closes at the first `low` poll that sees the level recovered (before the 6 h limit; after it the stop closes it) -/
theorem closes_when_recovered (c : Cfg) (h tis : Int) (hr : h ≥ c.low + c.hyst) :
    pollLow c h tis = .toNormal ∨ pollLow c h tis = .emergency := by
  rw [pollLow_eq_toNormal, pollLow_eq_emergency]
  omega

/-- at the limits (2 h in fill, 6 h in low) the poll requests the emergency stop, which halts the tank itself
    (`tank_halt_closes_valve`) and Filtration – whatever Filtration's phase, also when it is already halted -/
theorem limits (c : Cfg) (h tis : Int) :
    (tis > twoHours → pollFill c h tis = .emergency) ∧ (tis > sixHours → pollLow c h tis = .emergency) :=
  ⟨pollFill_eq_emergency.2, fun ht => pollLow_eq_emergency.2 (.inl ht)⟩

/-- the fill phase does not open the valve unless the level is below too_low -/
theorem fill_opens_only_below_too_low (c : Cfg) (h : Int) : (enterFill c h).1 = true → h < c.tooLow := by
  simp only [enterFill]; split <;> simp_all

example : pollLow { hyst := 5, tooLow := 10, low := 30, high := 70 } 20 0 = .rearm 10 := by decide

/-- **(iii) as a bound on the open time**: a poll that keeps the valve open (re-arms) ran no later than the limit after the
    phase was entered (`since`), and re-arms with 5 s; with the timed theorem `Timing.tank_polls` (the re-armed poll is
    delivered no later than 5 s + lag after it was armed) the controller is in `fill` (resp. `low`) at instant `now` only if
    `now − since ≤ 2 h (resp. 6 h) + 5 s + lag`: at the next poll after the limit the emergency stop is requested
    (`limits`), which closes the valve (`tank_halt_closes_valve`).  Times in microseconds. -/
theorem open_time_bounded (c : Cfg) (h since poll now lag : Int) (n : Nat) :
    (pollFill c h (poll - since) = .rearm n → now ≤ poll + n * 500000 + lag → now - since ≤ twoHours + 5000000 + lag) ∧
    (pollLow c h (poll - since) = .rearm n → now ≤ poll + n * 500000 + lag → now - since ≤ sixHours + 5000000 + lag) := by
  constructor
  · intro e hnow
    obtain ⟨rfl, ht, _⟩ := pollFill_eq_rearm.1 e
    omega
  · intro e hnow
    obtain ⟨rfl, ht, _⟩ := pollLow_eq_rearm.1 e
    omega

/-! ## level set in force, force-empty (Model/Guards.lean, exhaustively compared with the real methods) -/
open Poupool.Guards in
/-- the thresholds in force are those of the LAST mode set, whatever the history of mode changes (no cross-talk between
    the eco and the overflow set) -/
theorem level_set_follows_last_mode (el eh ol oh : Int) (hist : List String) (m : String) :
    levelsAfter el eh ol oh (hist ++ [m]) = if m == "eco" then (el, eh) else (ol, oh) := by
  rw [levelsAfter.eq_2 _ _ _ _ _ (by simp), List.getLast!_eq_getLast?_getD, List.getLast?_concat]
  rfl

open Poupool.Guards in
/-- force-empty: switching it on while the tank runs stops the whole system (then C01); switching it off while halted
    restarts the tank from `fill`; every other combination does nothing -/
theorem force_empty_cases (p v h : Bool) :
    (forceEmpty p v h = .haltFiltration ↔ (p = false ∧ v = true ∧ h = false)) ∧
    (forceEmpty p v h = .startFill ↔ (p = true ∧ v = false ∧ h = true)) := by
  cases p <;> cases v <;> cases h <;> decide

end Poupool.C05
