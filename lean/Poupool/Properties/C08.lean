import Poupool.Generated.ActorCerts
/-!
# C08  Time-limited phases end on time and polling phases never go deaf

`timerOK` is an invariant of EVERY reachable state of every controller, for every message sequence – in particular for
the sequences in which a command is delivered between a timer's firing and the delivery of its call, and for bursts:

* (no stale poll) if the delayed call carrying the current token is a poll `do_repeat_<phase>`, the controller is in
  that phase – `do_cancel` runs on every state change (it is in the generated rows) and invalidates the token; a call
  with an old token is dropped by `do_delayed` (the model's `Msg.delayed` rule, read from controller/actor.py by the
  runtime probe);
* (not deaf) in every phase that is not listed as quiet, either a delayed call with the current token exists – a poll,
  or a trigger that is accepted unconditionally in this phase (its timeout) – or an unguarded self-tell of such a
  trigger, issued since the phase was entered, is pending.  Hence a timed phase is left when its timer fires unless another row fired first, and a polling
  phase is polled again; with ε-prompt delivery: within duration + 2ε resp. period + 2ε.

The quiet phases are listed by name below (phases that legitimately have neither timer nor poll).
-/
namespace Poupool.C08
open Poupool.Gen

def isTotal (D : ActorDesc) (l : Nat) (m : Nat) : Bool := D.total.contains (l, m)

def noStalePoll (D : ActorDesc) (s : St) : Bool :=
  match s.armed with
  | some m =>
      match D.pollOwner.find? (·.1 == m) with
      | some (_, ls) => ls.contains s.leaf
      | none => true
  | none => true

def notDeaf (D : ActorDesc) (quiet : List Nat) (s : St) : Bool :=
  quiet.contains s.leaf ||
  (match s.armed with
   | some m => if D.triggers.contains m then isTotal D s.leaf m else true
   | none => false) ||
  (s.pend.any fun m => D.triggers.contains m && isTotal D s.leaf m)

def timerOK (D : ActorDesc) (quiet : List Nat) (s : St) : Bool := !s.bad && noStalePoll D s && notDeaf D quiet s

theorem filtration_timers : ∀ s, Reach filtrationTimerDesc s →
    timerOK filtrationTimerDesc [Filtration.leaf_halt, Filtration.leaf_sweep] s = true :=
  invariant_of_closed _ _ _ Cert.filtrationTimer_closed (by decide +kernel)

theorem tank_timers : ∀ s, Reach tankTimerDesc s → timerOK tankTimerDesc [Tank.leaf_halt] s = true :=
  invariant_of_closed _ _ _ Cert.tankTimer_closed (by decide +kernel)

theorem heating_timers : ∀ s, Reach heatingTimerDesc s →
    timerOK heatingTimerDesc [Heating.leaf_halt, Heating.leaf_forcing] s = true :=
  invariant_of_closed _ _ _ Cert.heatingTimer_closed (by decide +kernel)

theorem disinfection_timers : ∀ s, Reach disinfectionTimerDesc s →
    timerOK disinfectionTimerDesc [Disinfection.leaf_halt] s = true :=
  invariant_of_closed _ _ _ Cert.disinfectionTimer_closed (by decide +kernel)

theorem swim_timers : ∀ s, Reach swimTimerDesc s → timerOK swimTimerDesc [Swim.leaf_halt] s = true :=
  invariant_of_closed _ _ _ Cert.swimTimer_closed (by decide +kernel)

theorem arduino_timers : ∀ s, Reach arduinoTimerDesc s → timerOK arduinoTimerDesc [Arduino.leaf_halt] s = true :=
  invariant_of_closed _ _ _ Cert.arduinoTimer_closed (by decide +kernel)

/-- non-vacuity: polling and timed phases are in the certificates -/
example : (statesOf filtrationTimerReach).any (fun s => s.leaf == Filtration.leaf_standby_boost && s.armed == some Filtration.m_standby) = true := by
  decide +kernel
example : (statesOf tankTimerReach).any (fun s => s.leaf == Tank.leaf_normal && s.pend == [Tank.m_low]) = true := by
  decide +kernel

/-! ## durations: every time-limited phase arms its timeout with the configured duration, every poll with its period

`<actor>Delays` lists every `do_delay` of the source with its duration resolved by the translator on the running code
(class constants and config.ini values evaluated; `self.__x.total_seconds()` = the duration setting x).  With `timerOK`
(the timeout carrying the current token exists in every state of the phase) and ε-prompt delivery, a phase entered at t
is left by t + d + 2ε unless another row fired first. -/

def dur (tbl : List (String × String × Dur)) (handler target : String) : Option Dur :=
  (tbl.find? fun (h, m, _) => h == handler && m == target).map (·.2.2)

theorem filtration_timeouts :
    dur filtrationDelays "on_enter_standby_boost" "standby" = some (.setting "boost_duration") ∧
    dur filtrationDelays "on_enter_overflow_boost" "overflow" = some (.setting "boost_duration") ∧
    dur filtrationDelays "on_enter_heating_delay_none" "heating_delayed" = some (.halfSeconds Cfg.heating_delay_to_eco) ∧
    dur filtrationDelays "on_enter_heating_delay_standby" "heating_delayed" = some (.halfSeconds Cfg.heating_delay_to_open) ∧
    dur filtrationDelays "on_enter_heating_delay_overflow" "heating_delayed" = some (.halfSeconds Cfg.heating_delay_to_open) ∧
    dur filtrationDelays "on_enter_wash_backwash" "rinse" = some (.setting "backwash_backwash_duration") ∧
    dur filtrationDelays "on_enter_wash_rinse" "eco" = some (.setting "backwash_rinse_duration") ∧
    dur filtrationDelays "on_enter_wintering_stir" "wintering_waiting" = some (.halfSeconds Cfg.wintering_duration) ∧
    dur filtrationDelays "do_repeat_opening" "opened" = some (.halfSeconds 4) ∧
    dur filtrationDelays "do_repeat_closing" "closed" = some (.halfSeconds 4) ∧
    dur filtrationDelays "on_enter_eco_compute" "eco_normal" = some (.halfSeconds 10) ∧
    dur filtrationDelays "on_enter_eco_compute" "eco_waiting" = some (.halfSeconds 10) := by decide +kernel

/-- every poll of Filtration re-arms with its own name and a period of 10 s (cover 5 s, wintering 2 min) -/
theorem filtration_poll_periods :
    (filtrationDelays.filter fun (h, m, _) => h == m).map (fun (h, _, d) => (h, d)) =
      [("do_repeat_closing", .halfSeconds 10), ("do_repeat_comfort", .halfSeconds 20), ("do_repeat_eco_normal", .halfSeconds 20),
       ("do_repeat_eco_tank", .halfSeconds 20), ("do_repeat_eco_waiting", .halfSeconds 20),
       ("do_repeat_heating_running", .halfSeconds 20), ("do_repeat_opening", .halfSeconds 10),
       ("do_repeat_overflow_normal", .halfSeconds 20), ("do_repeat_standby_normal", .halfSeconds 20),
       ("do_repeat_wintering_waiting", .halfSeconds 240)] := by decide +kernel

theorem other_timeouts :
    dur heatingDelays "on_enter_recovering" "recover_done" = some (.halfSeconds Cfg.heating_recover_period) ∧
    dur disinfectionDelays "on_enter_waiting" "run" = some (.halfSeconds Cfg.disinfection_start_delay) ∧
    dur disinfectionDelays "on_enter_running_treating" "adjust" = some (.halfSeconds Cfg.disinfection_waiting_delay) ∧
    dur swimDelays "on_enter_wintering_stir" "wintering_waiting" = some (.halfSeconds Cfg.wintering_swim_duration) ∧
    dur swimDelays "do_repeat_timed" "do_repeat_timed" = some (.halfSeconds 2) ∧
    dur swimDelays "do_repeat_continuous" "do_repeat_continuous" = some (.halfSeconds 2) ∧
    dur swimDelays "do_repeat_wintering_waiting" "do_repeat_wintering_waiting" = some (.halfSeconds 240) ∧
    dur tankDelays "do_repeat_fill" "do_repeat_fill" = some (.halfSeconds 10) ∧
    dur tankDelays "do_repeat_low" "do_repeat_low" = some (.halfSeconds 10) ∧
    dur tankDelays "do_repeat_normal" "do_repeat_normal" = some (.halfSeconds 20) ∧
    dur tankDelays "do_repeat_high" "do_repeat_high" = some (.halfSeconds 20) ∧
    dur heatingDelays "do_repeat_waiting" "do_repeat_waiting" = some (.halfSeconds 20) ∧
    dur heatingDelays "do_repeat_heating" "do_repeat_heating" = some (.halfSeconds 20) ∧
    dur pwmDelays "do_run" "do_run" = some (.halfSeconds 2) := by decide +kernel

/-- no `do_delay` has a duration the translator could not resolve -/
def allResolved (tbl : List (String × String × Dur)) : Bool :=
  tbl.all fun (_, _, d) => match d with | .unknown _ => false | _ => true

theorem durations_resolved :
    (allResolved filtrationDelays && allResolved tankDelays && allResolved heatingDelays && allResolved disinfectionDelays &&
     allResolved swimDelays && allResolved arduinoDelays && allResolved pwmDelays) = true := by decide +kernel

end Poupool.C08
