/-
C15 (static UI part)   (b) every state string a controller can publish on a */state topic has an entry in the
shipped `state.map`;  (c) every command the shipped openHAB sitemap can send is accepted by the dispatcher model of
C14 (a controller is told something) and every command topic of `poupool.things` is a subscribed (table) topic.

`Generated.Ui` is regenerated on every run from raspberrypi/openhab/configurations/** and controller/*.py;
`Generated.Dispatch.table` from the real Dispatcher.  For (c) Python's `float()` / `lower()` of each of the finitely
many UI payloads are precomputed by CPython and carried as data (`UiCmd.num`, `UiCmd.lower`); checks/c15_ui.py
validates every command against the REAL dispatcher as well.  The tables are finite and complete, so
`decide +kernel` is a proof.
-/
import Poupool.Proofs.Dispatch
import Poupool.Generated.Dispatch
import Poupool.Generated.Ui

namespace Poupool.C15Ui
open Poupool.Dispatch Poupool.Generated.Dispatch Poupool.Generated.Ui

def pynumOf (c : UiCmd) : Option PyNum :=
  match c.num with
  | some (n, d) => if h : 0 < d then some (.fin ⟨n, d, h⟩) else none
  | none => none

/-- what the dispatcher model tells for one UI command (fresh dispatcher, intended decode/float/lower) -/
def uiTell (topic : String) (c : UiCmd) : Option Tell :=
  (dispatch table boolTrue (fun _ => pynumOf c) (fun _ => c.lower) (fun _ => some c.payload) {} topic c.payload.toUTF8).2

def uiAccepted (tc : String × List UiCmd) : Bool := tc.2.all (fun c => (uiTell tc.1 c).isSome)

/-! ## (b) -/

/-- every state string any `<ctrl>_state(...)` publish site can emit is a key of the shipped state.map -/
theorem C15b_published_states_in_state_map : ∀ p ∈ publishedStates, stateMapKeys.contains p.2 = true := by
  decide +kernel

example : ("filtration", "closing_40") ∈ publishedStates ∧ ("tank", "fill") ∈ publishedStates ∧
    publishedStates.length ≥ 40 := by decide +kernel

/-! ## (c) -/

/-- every command topic of poupool.things is a topic of the dispatcher table (= is subscribed: Mqtt subscribes to
`dispatcher.topics()`) -/
theorem C15c_command_topics_subscribed : ∀ t ∈ commandTopics, (entryOf table t).isSome = true := by decide +kernel

/-- every topic a sitemap widget sends on is one of those command topics -/
theorem C15c_widget_topics_are_command_topics : ∀ tc ∈ uiCommands, commandTopics.contains tc.1 = true := by
  decide +kernel

/-- EVERY value EVERY sitemap widget can send (complete min..max step grids, mapping keys, ON/OFF, after the JS
transforms) makes the dispatcher tell a controller -/
theorem C15c_ui_commands_accepted : uiCommands.all uiAccepted = true := by decide +kernel

/-- with the generic inversion `dispatch_tell_inv`: each UI command is told to the controller of its topic's entry -/
theorem C15c_ui_commands_validated :
    ∀ tc ∈ uiCommands, ∀ c ∈ tc.2, ∃ tl, uiTell tc.1 c = some tl ∧
      ∃ e ∈ table, e.topic = tc.1 ∧ tl.target = e.target := by
  intro tc htc c hc
  obtain ⟨tl, ht⟩ := Option.isSome_iff_exists.mp
    (List.all_eq_true.1 (List.all_eq_true.1 C15c_ui_commands_accepted tc htc) c hc)
  obtain ⟨e, hmem, htopic, htg, -⟩ := dispatch_tell_inv (Prod.ext rfl ht)
  exact ⟨tl, ht, e, hmem, htopic, htg⟩

example : uiTell "/settings/filtration/duration" ⟨"Poupool_Filtration_Duration", "172800", "172800", some (172800, 1)⟩
    = some ⟨"filtration", "duration", .int 172800⟩ := by decide +kernel

example : uiCommands.length ≥ 25 ∧ (uiCommands.map (fun tc => tc.2.length)).sum ≥ 500 := by decide +kernel

end Poupool.C15Ui
