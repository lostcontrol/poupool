import Poupool.Properties.C01
import Poupool.Model.Winter
import Poupool.Proofs.EcoArith
/-!
# C13  Counter-current pump runs only while the pool is open, or in wintering
* `swim_relay_only_in_running_phases`: the relay is energised only in Swim's `timed`, `continuous`, `wintering_stir`.
* `swim_start_is_guarded`: every row out of Swim's `halt` is guarded (`filtration_allow_swim` /
  `filtration_is_wintering`); a refused request changes nothing (C12.refused_request_changes_nothing).
* `filtration_knows_swim_halted`: for every message sequence, in `halt`, every `eco_*`, `heating_*`, `wash_*`,
  `opening_*` phase and in `closing` Filtration's last word to Swim is `halt` (or Swim answered halted).
  With `C01.glue_swim` and `C01.swim_off_when_halted`: settled ⇒ the relay is off in those phases.
* OPEN FINDING (known_findings.json `swim-user-request-in-wintering`): `filtration_allow_swim` also accepts while
  Filtration is wintering, so "a request in any other mode is refused" is false there: `swim_guard_allows_wintering`.
-/
namespace Poupool.C13
open Poupool.Gen

def relayOK (s : St) : Bool :=
  !s.bad && (s.v Swim.v_dev_swim == 0 || s.leaf == Swim.leaf_timed || s.leaf == Swim.leaf_continuous ||
    s.leaf == Swim.leaf_wintering_stir)

theorem swim_relay_only_in_running_phases : ∀ s, Reach swimSafetyDesc s → relayOK s = true :=
  invariant_of_closed _ _ _ Cert.swimSafety_closed (by decide +kernel)

example : (statesOf swimSafetyReach).any (fun s => s.v Swim.v_dev_swim == 1) = true := by decide +kernel

def startGuarded : Bool :=
  (swimRows.getD Swim.leaf_halt []).all fun r =>
    (r.dest == Swim.leaf_halt) ||
    ((r.trig == Swim.m_timed || r.trig == Swim.m_continuous) && r.req.contains (Swim.g_filtration_allow_swim, true)) ||
    (r.trig == Swim.m_wintering && r.req.contains (Swim.g_filtration_is_wintering, true))

theorem swim_start_is_guarded : startGuarded = true := by decide +kernel

def neverList (l : Nat) : Bool :=
  [Filtration.leaf_halt, Filtration.leaf_eco_compute, Filtration.leaf_eco_normal, Filtration.leaf_eco_tank,
   Filtration.leaf_eco_waiting, Filtration.leaf_heating_running, Filtration.leaf_heating_delay_none,
   Filtration.leaf_heating_delay_standby, Filtration.leaf_heating_delay_overflow, Filtration.leaf_wash_backwash,
   Filtration.leaf_wash_rinse, Filtration.leaf_opening_standby, Filtration.leaf_opening_overflow,
   Filtration.leaf_closing].contains l

def knowsSwimHalted (s : St) : Bool := !s.bad && (!neverList s.leaf || s.v Filtration.v_rq_Swim == N.halt_)

theorem filtration_knows_swim_halted : ∀ s, Reach filtrationSafetyDesc s → knowsSwimHalted s = true :=
  invariant_of_closed _ _ _ Cert.filtrationSafety_closed (by decide +kernel)

/-- the phases in which Swim's guard can be true (regenerated from `filtration_allow_swim`'s source) -/
def swimAllowedLeaves : List Nat :=
  match filtrationSafetyDesc.havoc.find? (·.1 == Filtration.v_rq_Swim) with
  | some (_, ls, _) => ls
  | none => []

/-- open finding: the guard includes the two wintering phases -/
theorem swim_guard_allows_wintering :
    swimAllowedLeaves.contains Filtration.leaf_wintering_waiting = true ∧
    swimAllowedLeaves.contains Filtration.leaf_wintering_stir = true := by decide +kernel

/-- apart from wintering, the guard allows exactly the open stable modes of the statement -/
theorem swim_guard_open_modes_partial :
    (swimAllowedLeaves.filter fun l => !(l == Filtration.leaf_wintering_waiting || l == Filtration.leaf_wintering_stir))
      = [Filtration.leaf_standby_normal, Filtration.leaf_overflow_normal, Filtration.leaf_comfort] := by decide +kernel

/-! ## timed mode stops by itself (Model/Winter.lean: util.Timer as used by Swim.do_repeat_timed) -/
open Poupool.Winter

theorem foldl_update (ts : List Int) (d l : Int) :
    ts.foldl Timer.update { dur := d, last := some l } = { dur := d + (ts.getLastD l - l), last := some (ts.getLastD l) } := by
  induction ts generalizing d l with
  | nil => simp
  | cons x xs ih =>
      simp only [List.foldl_cons, Timer.update, ih, List.getLastD_cons]
      congr 1
      omega

/-- after any sequence of polls the accumulated time is exactly (last poll − first poll): nothing is lost or counted twice -/
theorem timed_accumulates (t0 : Int) (ts : List Int) :
    (runPolls (t0 :: ts)).dur = (ts.getLastD t0) - t0 ∧ (runPolls (t0 :: ts)).last = some (ts.getLastD t0) := by
  rw [runPolls, List.foldl_cons, Timer.update, foldl_update]
  exact ⟨by simp, rfl⟩

/-- hence the poll that comes `delay` after the first one requests `halt` (polls are 1 s apart: C08.other_timeouts) -/
theorem timed_stops (t0 delay : Int) (ts : List Int) (now : Int) (h : now - t0 ≥ delay) :
    (timedPoll (runPolls (t0 :: ts)) delay now).1 = .halt := by
  obtain ⟨hd, hl⟩ := timed_accumulates t0 ts
  simp only [timedPoll, Timer.update, hl, hd]
  exact if_pos (by omega)

example : (timedPoll (runPolls [0, 1000000, 2000000]) 3000000 3000000).1 = .halt := by decide

/-! ## one util.Timer, two models

`Winter.Timer` (used above) and `Eco.Timer` (Model/Eco.lean, tied statement by statement to controller/util.py by the shape check of
translate/eco_config.py and the op-exact EcoMode/Timer correspondence) describe the same class; the swim poll uses it with
`update(now)` (factor 1) and `elapsed()`.  `timer_models_agree`: projected to (duration, last) the two evolve identically, and
`elapsed` is the same decision — so the tie of `Eco.Timer` carries over to `timed_accumulates` / `timed_stops`. -/

def ofEco (t : Poupool.Eco.Timer) : Timer := { dur := t.duration, last := t.last }

theorem timer_models_agree (t : Poupool.Eco.Timer) (now : Int) :
    ofEco (t.update now 1 1) = (ofEco t).update now ∧
    (t.update now 1 1).delay = t.delay ∧
    ((t.update now 1 1).elapsed = true ↔ ((ofEco t).update now).dur ≥ t.delay) := by
  unfold Poupool.Eco.Timer.update Timer.update ofEco Poupool.Eco.Timer.elapsed
  cases h : t.last with
  | none => simp
  | some l => simp [Poupool.Eco.scale_one]

/-- `on_enter_timed` resets the timer, the `timer` setting sets the delay (and resets): both models start from duration 0, no last update -/
theorem timer_models_agree_reset (t : Poupool.Eco.Timer) (d : Int) :
    ofEco t.reset = { dur := 0, last := none } ∧ ofEco (t.setDelay d) = { dur := 0, last := none } ∧ (t.setDelay d).delay = d := by
  simp [ofEco, Poupool.Eco.Timer.reset, Poupool.Eco.Timer.setDelay]

example : ofEco ((Poupool.Eco.Timer.mk 5 (some 10) 100).update 45 1 1) = { dur := 40, last := some 45 } := by decide

end Poupool.C13
