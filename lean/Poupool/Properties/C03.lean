/-
C03  Daily cap on dosing-pump run time.

Model: Poupool/Model/Pwm.lean (`tick` = PWM.do_run, `cancel` = PWM.do_cancel, statement by statement), constants from
the regenerated Poupool/Generated/PwmConfig.lean.  Ghost semantics and invariant: Poupool/Proofs/PwmCap.lean.

Schedule assumption (`Valid`): time does not run backwards and, WHILE THE PUMP IS ENERGISED, the next do_run / do_cancel
comes at most Δ after the previous do_run (Δ = 1.5 s for the property's quantifier: ticks nominally every 1 s, jitter up
to half a second).  Nothing is assumed while the pump is off (halts of any length, any number of days).
Everything else is universally quantified: the op list (any interleaving of ticks, cancels/restarts, duty and period
writes, any length), period, min_runtime, configured security duration S ≥ 0, start instant.

Result: between two consecutive daily resets (and from construction to the first reset) the energised time of the pump
is ≤ S·10⁶ µs + 2Δ:  one Δ because the timer is only consulted at ticks (overshoot), one Δ because `Timer.reset()` at the
daily reset forgets its reference instant, so the first tick interval after a reset with the pump on is not counted.
With 2Δ ≤ P (P ≥ 3 s at Δ = 1.5 s; the property quantifies over P ≥ 10 s) this is the property's "S + one PWM period".
-/
import Poupool.Proofs.PwmCap
import Poupool.Generated.PwmConfig

namespace Poupool.C03
open Poupool.Pwm Poupool.Generated

/-- The source applies the configured number in SECONDS (`timedelta(seconds=PWM.SECURITY_DURATION)`), as config.ini
documents it ("in seconds per day").  Regenerated from the source: `hours=` makes this theorem false. -/
theorem c03_unit_is_seconds : pwmCfg.securityUnitUs = 1000000 := by decide

example : pwmCfg.securityDuration * pwmCfg.securityUnitUs = 7200 * 1000000 := by decide

/-- The translator found every function the model mirrors in the expected shape. -/
theorem c03_shape : pwmCfg.shapeOk = true := by decide

/-- Main theorem.  For every configured security duration `S ≥ 0` (as a number of seconds), every period, minimum run
time, start instant, tick bound `Δ ≥ 0` and every valid op list: the energised time since the last daily reset is at
most `S` seconds plus two ticks.  (The value just before a reset tick is the total of the closing window.) -/
theorem c03_cap (period minRt : Rat) (S start Δ : Int) (ops : List Op) (hS : 0 ≤ S) (hΔ : 0 ≤ Δ)
    (hv : Valid pwmCfg Δ (G.init pwmCfg period minRt S start) ops) :
    (runG pwmCfg (G.init pwmCfg period minRt S start) ops).energ ≤ S * 1000000 + 2 * Δ := by
  obtain ⟨hinv, hd⟩ := inv_of_init pwmCfg c03_unit_is_seconds (by omega) hΔ hv
  exact hd ▸ inv_bound hinv

/-- non-vacuity: S = 5 s, P = 10 s, duty 100 %, 1 s ticks: the pump is switched on at the 2nd tick, the cap is reached
after 5 counted seconds and the pump is switched off (energised exactly 5 s); the schedule is valid for Δ = 1.5 s. -/
def demoOps : List Op :=
  [.setValue 1, .tick] ++ (List.replicate 9 [Op.wait 1000000, Op.tick]).flatten

example : Valid pwmCfg 1500000 (G.init pwmCfg 10 3 5 0) demoOps := by decide +kernel
example : (runG pwmCfg (G.init pwmCfg 10 3 5 0) demoOps).energ = 5000000 := by decide +kernel
example : (runG pwmCfg (G.init pwmCfg 10 3 5 0) demoOps).s.pumpOn = false := by decide +kernel
example : (runG pwmCfg (G.init pwmCfg 10 3 5 0) (demoOps.take 8)).s.pumpOn = true := by decide +kernel

/-- The property as stated: with `2Δ ≤ P` (P the PWM period in whole seconds, e.g. Δ = 1.5 s and P ≥ 3 s) the energised
time per security window never exceeds the configured security duration by more than one PWM period. -/
theorem c03_cap_one_period (P : Int) (minRt : Rat) (S start Δ : Int) (ops : List Op) (hS : 0 ≤ S) (hΔ : 0 ≤ Δ)
    (hP : 2 * Δ ≤ P * 1000000)
    (hv : Valid pwmCfg Δ (G.init pwmCfg (P : Rat) minRt S start) ops) :
    (runG pwmCfg (G.init pwmCfg (P : Rat) minRt S start) ops).energ ≤ (S + P) * 1000000 := by
  have := c03_cap (P : Rat) minRt S start Δ ops hS hΔ hv
  omega

example : (2 : Int) * 1500000 ≤ 10 * 1000000 ∧ Valid pwmCfg 1500000 (G.init pwmCfg ((10 : Int) : Rat) 3 5 0) demoOps := by
  decide +kernel

/-- The pump is only ever switched on while the security timer has not elapsed, and it never stays on across a tick at
which the timer has elapsed (this is what makes 100 % duty respect the cap). -/
theorem c03_on_implies_not_elapsed (period minRt : Rat) (S start Δ : Int) (ops : List Op) (hS : 0 ≤ S) (hΔ : 0 ≤ Δ)
    (hv : Valid pwmCfg Δ (G.init pwmCfg period minRt S start) ops) :
    (runG pwmCfg (G.init pwmCfg period minRt S start) ops).s.pumpOn = true →
    (runG pwmCfg (G.init pwmCfg period minRt S start) ops).s.sec.duration < S * 1000000 := by
  obtain ⟨hinv, hd⟩ := inv_of_init pwmCfg c03_unit_is_seconds (by omega) hΔ hv
  exact fun hp => hd ▸ hinv.hdon hp

example : (runG pwmCfg (G.init pwmCfg 10 3 5 0) (demoOps.take 8)).s.sec.duration = 2000000 := by decide +kernel

/-- After a cancel the pump is off, whatever happened before. -/
theorem c03_cancel_off (c : Cfg) (g : G) : (stepG c g .cancel).s.pumpOn = false := rfl

example : (stepG pwmCfg (runG pwmCfg (G.init pwmCfg 10 3 5 0) (demoOps.take 8)) .cancel).s.pumpOn = false := rfl

end Poupool.C03
