import Poupool.Proofs.Decisions
import Poupool.Properties.Sensor
import Poupool.Properties.C01
import Poupool.Properties.C08
/-!
# C04  Tank too low (or level sensor dead) stops the whole system within 30 s

* `too_low_chain`: for every valid threshold configuration (both level sets of config.ini are valid: `config_valid`)
  and every measured level below too_low: the `high` poll goes to normal, the `normal` poll to low and the `low` poll
  (any time before the 6 h limit, after it as well) requests the emergency stop (Filtration.halt and its own halt).
* `latency_bound`: the polls are at most 10 s apart in high/normal and 5 s in low (`Act.rearm` arguments, in half
  seconds), the first poll of a phase is immediate (`@do_repeat`, C08): the stop is requested at most
  10 s + 3·R after the level dropped, R = duration of one sensor reading (≤ 5 s with a dead ADC: 10 reads × 0.5 s),
  i.e. ≤ 25 s, plus the delivery latencies.
* a dead ADC reads as level 0 (`TankSensorDevice.value`: checked by the correspondence on the real device class).
* Filtration accepts `halt` unconditionally in every phase (`C01.filtration_halt_accepted_everywhere`) and then C01
  applies; the Tank polls are always armed (`C08.tank_timers`).
-/
namespace Poupool.C04
open Poupool.Tank

theorem too_low_chain (c : Cfg) (hv : Valid c) (h tis : Int) (hl : h < c.tooLow) :
    pollHigh c h = .toNormal ∧ pollNormal c h = .toLow ∧ pollLow c h tis = .emergency := by
  obtain ⟨h0, h1, h2⟩ := hv
  exact ⟨pollHigh_eq_toNormal.2 (by omega), pollNormal_eq_toLow.2 (by omega), pollLow_eq_emergency.2 (by omega)⟩

/-- the same from `fill` after the 2 h limit -/
theorem fill_limit (c : Cfg) (h tis : Int) (ht : tis > twoHours) : pollFill c h tis = .emergency :=
  pollFill_eq_emergency.2 ht

def ecoCfg : Cfg := { hyst := 5, tooLow := 10, low := 30, high := 70 }
def overflowCfg : Cfg := { hyst := 5, tooLow := 10, low := 20, high := 60 }

theorem config_valid : Valid ecoCfg ∧ Valid overflowCfg := by decide

/-- worst-case time from the drop to the stop request, in half seconds, from each phase: wait for the running poll
    period, then one reading per phase on the way (R half-seconds each) -/
def latencyHalfSec (phase : Nat) (R : Nat) : Nat :=
  match phase with
  | 0 => 20 + 3 * R      -- high: ≤ 10 s to the next poll, readings in high, normal, low
  | 1 => 20 + 2 * R      -- normal
  | _ => 10 + R          -- low

theorem latency_bound (phase R : Nat) (hR : R ≤ 10) : latencyHalfSec phase R ≤ 50 := by
  unfold latencyHalfSec
  split <;> omega

/-- the periods used above are the ones the polls re-arm with -/
theorem poll_periods (c : Cfg) (h tis : Int) :
    (∀ n, pollHigh c h = .rearm n → n = 20) ∧ (∀ n, pollNormal c h = .rearm n → n = 20) ∧
    (∀ n, pollLow c h tis = .rearm n → n = 10) :=
  ⟨fun _ e => (pollHigh_eq_rearm.1 e).1, fun _ e => (pollNormal_eq_rearm.1 e).1, fun _ e => (pollLow_eq_rearm.1 e).1⟩

example : pollHigh ecoCfg 3 = .toNormal ∧ pollNormal ecoCfg 3 = .toLow ∧ pollLow ecoCfg 3 0 = .emergency :=
  too_low_chain ecoCfg config_valid.1 3 0 (by decide)

/-- The clause "including a dead level sensor, which reads as 0", end to end on the models: when all ten read attempts of a
reading fail, the value `TankSensorDevice.value` returns is 0 for every calibration 0 ≤ low < high (`SensorProps.dead_sensor_reads_zero`),
the reading took exactly 5 s, hence R = 10 half-seconds in `latency_bound`, and whatever integer `h` stands for that value in the unit
of the thresholds (`h · den = num · unit`), every positive too-low threshold sends the polls down the chain to the emergency stop. -/
theorem dead_sensor_stops_the_system (c : Cfg) (hv : Valid c) (hpos : 0 < c.tooLow)
    (s : Poupool.Sensor.Cfg) (hs : Poupool.Sensor.Valid s) (reads : List (Option Int)) (hdead : ∀ r ∈ reads, r = none) (hten : reads.length = 10)
    (h unit tis : Int) (hrep : h * (Poupool.Sensor.value s reads).2 = (Poupool.Sensor.value s reads).1 * unit) :
    pollHigh c h = .toNormal ∧ pollNormal c h = .toLow ∧ pollLow c h tis = .emergency ∧
    Poupool.Sensor.elapsedMs reads = 5000 ∧ ∀ phase, latencyHalfSec phase 10 ≤ 50 := by
  obtain ⟨hz, hd⟩ := Poupool.SensorProps.dead_sensor_reads_zero s hs reads hdead
  rw [hz, Int.zero_mul] at hrep
  have h0 : h = 0 := (Int.mul_eq_zero.mp hrep).resolve_right (Int.ne_of_gt hd)
  obtain ⟨a, b, d⟩ := too_low_chain c hv h tis (by omega)
  refine ⟨a, b, d, ?_, fun ph => latency_bound ph 10 (by omega)⟩
  rw [Poupool.SensorProps.dead_reading_time hdead, hten]

example : Valid ecoCfg ∧ 0 < ecoCfg.tooLow ∧ Poupool.Sensor.Valid ⟨83, 1665⟩ ∧ (∀ r ∈ List.replicate 10 (none : Option Int), r = none) :=
  ⟨config_valid.1, by decide, by decide, fun _ hr => (List.mem_replicate.mp hr).2⟩

/-- The converse direction, end to end on the models (no false alarm, no false refill): a level sensor that fails some of its ten
attempts while every successful one reads at least the raw count `x` of `p` percent gives a value of at least `p` percent
(`SensorProps.high_readings_read_high`); whatever integer `h` stands for that value in the unit of the thresholds, if `p` percent is at
least `low − hysteresis` the poll of `normal` does not go to `low` (the mains valve stays closed), the poll of `high` at `p ≥ high − hyst`
stays in `high`, and in `low` the emergency stop is requested only by the 6 h limit, never by the too-low branch. -/
theorem flaky_sensor_no_false_alarm (c : Cfg) (hv : Valid c)
    (s : Poupool.Sensor.Cfg) (hs : Poupool.Sensor.Valid s) (reads : List (Option Int)) (x p : Int) (hp : p ≤ 100)
    (hx : p * (s.high - s.low) ≤ (x - s.low) * 100) (hall : ∀ r ∈ Poupool.Sensor.good reads, x ≤ r) (hne : Poupool.Sensor.good reads ≠ [])
    (h unit tis : Int) (hunit : 0 < unit) (hrep : h * (Poupool.Sensor.value s reads).2 = (Poupool.Sensor.value s reads).1 * unit) :
    (c.low - c.hyst ≤ p * unit → pollNormal c h ≠ .toLow) ∧
    (c.high - c.hyst ≤ p * unit → pollHigh c h ≠ .toNormal) ∧
    (c.tooLow ≤ p * unit → tis ≤ sixHours → pollLow c h tis ≠ .emergency) := by
  have hnb := Poupool.SensorProps.high_readings_read_high s hs reads x p hp hx hall hne
  obtain ⟨hd, -, -⟩ := Poupool.SensorProps.value_in_range s hs reads
  generalize Poupool.Sensor.value s reads = v at hrep hnb hd
  have hge : p * unit ≤ h := by
    -- p·v₂ ≤ v₁, times `unit`: (p·unit)·v₂ ≤ v₁·unit = h·v₂
    have := Int.mul_le_mul_of_nonneg_right (Int.not_lt.mp hnb) (Int.le_of_lt hunit)
    rw [← hrep, Int.mul_right_comm] at this
    exact Int.le_of_mul_le_mul_right this hd
  exact ⟨fun ht => mt pollNormal_eq_toLow.1 (by omega), fun ht => mt pollHigh_eq_toNormal.1 (by omega),
    fun ht hts => mt pollLow_eq_emergency.1 (by omega)⟩

/-- non-vacuity with the shipped calibration and the eco level set: six attempts out of ten fail, the others read ≥ 40 % -/
example : Poupool.Sensor.Valid ⟨83, 1665⟩ ∧ (40 : Int) * (1665 - 83) ≤ (716 - 83) * 100 ∧
    Poupool.Sensor.good [some 716, none, some 900, none, none, some 4095, none, none, some 800, none] ≠ [] := by decide

end Poupool.C04
