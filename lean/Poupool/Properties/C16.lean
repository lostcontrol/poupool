import Poupool.Proofs.Decisions
/-!
# C16  Scheduled heating starts and stops according to its policy

On the decision model (Model/Heating.lean), for every temperature value (known or unknown), setpoint, minimum
temperature, start hour, enable flag, instant and hysteresis configuration:

* `start_conditions`: the waiting poll requests `heat` only if heating is enabled, the daily start time has been
  reached, the pool is not known to be at or above the setpoint (+ hysteresis_down), the air is not known to be below the
  minimum, Filtration was in an eco phase that allows it and accepted `heat` (is in heating_running).
* `stop_conditions`: the heating poll stops (tells `wait`) iff disabled, or the pool temperature is unknown or has
  reached setpoint + hysteresis_up, or the air is known below minimum − hysteresis_min.  The poll runs every 10 s
  (`Timing.heating_polls`; that it is armed: `C08.heating_timers`), hence "within one poll".
* `once_per_day`: when a run ends at `t` (on_exit_heating) the next start is the start hour of the NEXT day, which is
  later than `t`; until then no poll requests `heat`; only `setpoint()` and `start_hour()` move it.
-/
namespace Poupool.C16
open Poupool.Heating

theorem start_conditions (c : Cfg) (s : St) (now : Int) (pool air : Option Int) (ready allow : Bool)
    (h : (waitingPoll c s now pool air ready allow).1 = .heat) :
    s.enable = true ∧ s.nextStart ≤ now ∧ (∀ t, pool = some t → t - c.hystDown < s.setpoint) ∧
    (∀ a, air = some a → s.minTemp ≤ a) ∧ ready = true ∧ allow = true := by
  obtain ⟨he, hn, hp, ha, hr, hal⟩ := waitingPoll_eq_heat.1 h
  refine ⟨he, hn, ?_, ?_, hr, hal⟩
  · rintro t rfl
    simpa [poolReached] using hp
  · rintro a rfl
    simpa [airTooCold] using ha

theorem stop_conditions (c : Cfg) (s : St) (pool air : Option Int) :
    heatingPoll c s pool air = .stop ↔
      (s.enable = false ∨ pool = none ∨ (∃ t, pool = some t ∧ t ≥ s.setpoint + c.hystUp) ∨
        (∃ a, air = some a ∧ a < s.minTemp - c.hystMin)) := by
  unfold heatingPoll
  cases he : s.enable
  · simp
  · cases pool <;> cases air <;> simp [poolDone, airStop]
    omega

theorem nextDayStart_later (now hour : Int) (h0 : 0 ≤ hour) : now < nextDayStart now hour := by
  unfold nextDayStart
  have hd : (0 : Int) < day := by decide
  have := Int.emod_lt_of_pos now hd
  have : 0 ≤ hour * hourUs := Int.mul_nonneg h0 (by decide)
  omega

/-- after a run ended at `t`, no waiting poll before the next day's start hour requests `heat` -/
theorem once_per_day (c : Cfg) (s : St) (t now : Int) (pool air : Option Int) (ready allow : Bool)
    (hn : now < (exitHeating s t).nextStart) :
    (waitingPoll c (exitHeating s t) now pool air ready allow).1 ≠ .heat :=
  fun h => Int.not_le.mpr hn (waitingPoll_eq_heat.1 h).2.1

theorem next_start_after_run (s : St) (t : Int) (h0 : 0 ≤ s.startHour) : t < (exitHeating s t).nextStart :=
  nextDayStart_later t s.startHour h0

/-- the waiting poll never moves the next start backwards: it keeps it, or sets it to a later instant than `now` -/
theorem waiting_poll_next_start (c : Cfg) (s : St) (now : Int) (pool air : Option Int) (ready allow : Bool)
    (h0 : 0 ≤ s.startHour) :
    (waitingPoll c s now pool air ready allow).2.nextStart = s.nextStart ∨
      now < (waitingPoll c s now pool air ready allow).2.nextStart := by
  unfold waitingPoll
  -- every branch returns `s` itself, but `skipToday`, which sets the start of the next day
  repeat' split
  all_goals first | exact .inl rfl | exact .inr (nextDayStart_later now s.startHour h0)

example : (waitingPoll { hystDown := 0, hystUp := 500, hystMin := 1000 }
    { enable := true, nextStart := 0, startHour := 8, setpoint := 26000, minTemp := 15000 } 10 (some 24500) (some 19400) true true).1 = .heat := by
  decide

end Poupool.C16
