/-
C14  No MQTT payload can crash a controller or bypass validation.

All theorems are about `Generated.Dispatch.table` (regenerated from controller/dispatcher.py on every run and validated
by probing the real predicates / converters) and `Model.Dispatch.dispatch`, for ALL topics, payloads (ByteArray),
once-states and ALL functions `parse`/`lower`/`decode` standing for Python's float()/str.lower()/bytes.decode().

THEOREM  (1) totality, unknown topics are silent                       C14_dispatch_total
         (2) what is told is the table's target/method and a validated value    C14_tell_is_validated
             no name of pykka's actor API can be called by name        C14_told_method_never_actor_api
         (3) once-topics are told at most once along any sequence       C14_once_at_most_once (+ C14_once_topics)
         (4) table facts other properties rely on                       C14_fact_*
         (5) arithmetic guards of the setters that can raise            C14_setter_guards_*
             (timedelta overflow, replace(hour=), daily/period > 0, strptime only inside try/except)
VALIDATED ONLY (checks/c14.py, not a theorem): that Model.dispatch is what Dispatcher.dispatch does (correspondence on
structured + random payloads), that the AST scan behind `setterPrims` found every raising primitive, and everything
else a setter does downstream (FSM triggers, device calls, asks): monitor with the REAL controllers in many states,
no actor may die and `halt` must still be processed.
-/
import Poupool.Proofs.Dispatch
import Poupool.Generated.Dispatch

namespace Poupool.C14
open Poupool.Dispatch Poupool.Generated.Dispatch

/-! ## (1) totality -/

/-- `dispatch` is a total function (it returns for every input); a topic that is not in the table tells nothing and
changes nothing; whenever nothing is told the state is unchanged. -/
theorem C14_dispatch_total (parse : String → Option PyNum) (lower : String → String)
    (decode : ByteArray → Option String) (s : State) (topic : String) (payload : ByteArray) :
    ∃ s' r, dispatch table boolTrue parse lower decode s topic payload = (s', r) ∧
      ((∀ e ∈ table, e.topic ≠ topic) → s' = s ∧ r = none) ∧ (r = none → s' = s) := by
  refine ⟨(dispatch table boolTrue parse lower decode s topic payload).1,
    (dispatch table boolTrue parse lower decode s topic payload).2, rfl, fun h => ?_, dispatch_none_state⟩
  rw [dispatch_unknown (lookup_none_of_not_mem h)]
  exact ⟨rfl, rfl⟩

/-- non-vacuity: a known topic with an acceptable payload does tell -/
example : (dispatch table boolTrue (fun _ => some (.fin (q 5 2))) id (fun _ => some "2.5") {} "/settings/filtration/speed/eco"
    ByteArray.empty).2 = some ⟨"filtration", "speed_eco", .int 2⟩ := by decide +kernel

/-! ## (2) validation -/

theorem C14_table_wellformed : table.all Entry.wf = true := by decide +kernel

theorem C14_topics_unique : (table.map (·.topic)).Nodup := by decide +kernel

/-- If anything is told, then the topic has an entry in the table, the target is that entry's controller, the method
is that entry's setter (mode topics: one of the whitelisted trigger names) and the value satisfies the entry's
predicate: `lo ≤ v ≤ hi` finite for `between`; for `to_int` the truncated integer itself is inside `[lo, hi]`
(integer bounds, so inside `[⌈lo⌉, ⌊hi⌋]`); `≥ lo` finite for `greater_equal`. -/
theorem C14_tell_is_validated (parse : String → Option PyNum) (lower : String → String)
    (decode : ByteArray → Option String) (s s' : State) (topic : String) (payload : ByteArray) (tl : Tell)
    (h : dispatch table boolTrue parse lower decode s topic payload = (s', some tl)) :
    ∃ e ∈ table, e.topic = topic ∧ tl.target = e.target ∧ MethodOk e tl.method ∧ ValueOk e tl.arg := by
  obtain ⟨e, hmem, htopic, ht, data, hp, hv, hm⟩ := dispatch_tell_inv h
  have hwf : e.wf = true := (List.all_eq_true.1 C14_table_wellformed) e hmem
  exact ⟨e, hmem, htopic, ht, hm ▸ method_ok hwf hp, value_ok hwf hp hv⟩

example : ∃ e ∈ table, e.topic = "/settings/filtration/speed/eco" ∧ ValueOk e (.int 2) ∧ MethodOk e "speed_eco" :=
  ⟨⟨"/settings/filtration/speed/eco", "filtration", .between (q 1 1) (q 3 1), .const "speed_eco", .toInt, false⟩,
    by decide +kernel, rfl, ⟨2, rfl, by decide, by decide⟩, rfl⟩

/-- names the dispatcher may call never collide with pykka's actor API (`stop`, `__class__`, `on_failure`, ...) -/
def safeNames (e : Entry) : Bool :=
  match e.method, e.pred with
  | .const n, _ => !actorApi.contains n
  | .identity, .inSet s false => s.all (fun m => !actorApi.contains m)
  | .identity, _ => false

theorem C14_table_names_safe : table.all safeNames = true := by decide +kernel

/-- No payload can make the dispatcher call a method of pykka's actor API (e.g. `stop`) on a controller. -/
theorem C14_told_method_never_actor_api (parse : String → Option PyNum) (lower : String → String)
    (decode : ByteArray → Option String) (s s' : State) (topic : String) (payload : ByteArray) (tl : Tell)
    (h : dispatch table boolTrue parse lower decode s topic payload = (s', some tl)) :
    actorApi.contains tl.method = false := by
  obtain ⟨e, hmem, _, _, hm, _⟩ := C14_tell_is_validated parse lower decode s s' topic payload tl h
  have hs : safeNames e = true := (List.all_eq_true.1 C14_table_names_safe) e hmem
  cases hmeth : e.method with
  | const n =>
    simp only [MethodOk, safeNames, hmeth] at hm hs
    simpa [hm] using hs
  | identity =>
    simp only [MethodOk, hmeth] at hm
    obtain ⟨S, hpred, hin⟩ := hm
    simp only [safeNames, hmeth, hpred, List.all_eq_true] at hs
    simpa using hs _ hin

example : actorApi.contains "stop" = true ∧ actorApi.contains "__class__" = true := by decide +kernel

/-! ## (3) once -/

theorem C14_once_topics :
    onceTopics table = ["/status/filtration/duration", "/status/heating/total_seconds", "/status/water/counter"] := by
  decide +kernel

theorem C14_once_entries : ∀ t ∈ onceTopics table, (entryOf table t).any (·.once) = true := by decide +kernel

/-- Along ANY sequence of deliveries (any topics, payloads, from any dispatcher state) each restore-only topic
(`once`) is told at most once. -/
theorem C14_once_at_most_once (parse : String → Option PyNum) (lower : String → String)
    (decode : ByteArray → Option String) (s : State) (msgs : List (String × ByteArray)) (t : String)
    (ht : t ∈ onceTopics table) :
    ((run table boolTrue parse lower decode s msgs).filter (fun x => x.1 == t)).length ≤ 1 :=
  Nat.le_trans (run_once_at_most_once (C14_once_entries t ht) msgs s) (by split <;> decide)

/-- non-vacuity: the first delivery is told, the second is not -/
example : ((run table boolTrue (fun _ => some (.fin (q 42 1))) id (fun _ => some "42") {}
    [("/status/water/counter", ByteArray.empty), ("/status/water/counter", ByteArray.empty)]).map (·.2)) =
    [⟨"arduino", "restore_water_counter", .int 42⟩] := by decide +kernel

/-! ## (4) table facts other properties rely on -/

theorem C14_fact_speed_eco : intRange table "/settings/filtration/speed/eco" = some (1, 3) := by decide +kernel
theorem C14_fact_speed_standby : intRange table "/settings/filtration/speed/standby" = some (0, 2) := by decide +kernel
theorem C14_fact_speed_overflow : intRange table "/settings/filtration/speed/overflow" = some (1, 4) := by decide +kernel
theorem C14_fact_duration : intRange table "/settings/filtration/duration" = some (1, 172800) := by decide +kernel
theorem C14_fact_period : intRange table "/settings/filtration/period" = some (1, 10) := by decide +kernel
theorem C14_fact_reset_hour : intRange table "/settings/filtration/reset_hour" = some (0, 23) := by decide +kernel
theorem C14_fact_stir_duration : intRange table "/settings/filtration/stir_duration" = some (0, 600) := by decide +kernel
theorem C14_fact_stir_period : intRange table "/settings/filtration/stir_period" = some (0, 7200) := by decide +kernel
theorem C14_fact_boost_duration : intRange table "/settings/filtration/boost_duration" = some (0, 600) := by decide +kernel
theorem C14_fact_backwash_period : intRange table "/settings/filtration/backwash/period" = some (0, 90) := by decide +kernel
theorem C14_fact_backwash_duration :
    intRange table "/settings/filtration/backwash/backwash_duration" = some (0, 300) := by decide +kernel
theorem C14_fact_rinse_duration :
    intRange table "/settings/filtration/backwash/rinse_duration" = some (0, 300) := by decide +kernel
theorem C14_fact_restore_duration : intRange table "/status/filtration/duration" = some (0, 86400) := by decide +kernel
theorem C14_fact_cover_position : intRange table "/settings/cover/position/eco" = some (0, 100) := by decide +kernel
theorem C14_fact_swim_timer : intRange table "/settings/swim/timer" = some (1, 60) := by decide +kernel
theorem C14_fact_swim_speed : intRange table "/settings/swim/speed" = some (1, 100) := by decide +kernel
theorem C14_fact_heating_start_hour : intRange table "/settings/heating/start_hour" = some (0, 23) := by decide +kernel
theorem C14_fact_heating_min_temp : intRange table "/settings/heating/min_temp" = some (5, 25) := by decide +kernel
theorem C14_fact_heating_total_seconds :
    intRange table "/status/heating/total_seconds" = some (0, 3153600000) := by decide +kernel
theorem C14_fact_orp_setpoint : intRange table "/settings/disinfection/orp/setpoint" = some (500, 800) := by decide +kernel
theorem C14_fact_tank_percentage :
    floatRange table "/settings/filtration/tank_percentage" = some (q 0 1, q 1 2) := by decide +kernel
theorem C14_fact_heater_setpoint : floatRange table "/settings/heater/setpoint" = some (q 0 1, q 30 1) := by decide +kernel
theorem C14_fact_heating_setpoint : floatRange table "/settings/heating/setpoint" = some (q 10 1, q 32 1) := by decide +kernel
theorem C14_fact_ph_setpoint : floatRange table "/settings/disinfection/ph/setpoint" = some (q 6 1, q 8 1) := by decide +kernel
theorem C14_fact_ph_pterm : floatRange table "/settings/disinfection/ph/pterm" = some (q 0 1, q 10 1) := by decide +kernel
theorem C14_fact_orp_pterm : floatRange table "/settings/disinfection/orp/pterm" = some (q 0 1, q 10 1) := by decide +kernel

/-- every numeric topic has a finite upper bound, except the water counter (`greater_equal(0)`, unbounded above) -/
theorem C14_fact_numeric_upper_bounds :
    ∀ e ∈ table, isNumeric e = true →
      hasFiniteUpper e = true ∨ (e.topic = "/status/water/counter" ∧ e.pred = .greaterEqual (q 0 1)) := by decide +kernel

/-- topic ↦ (controller, method): the routing the other properties rely on (`.identity`: the payload names the trigger) -/
def expectedRouting : List (String × String × MethodSel) := [
      ("/settings/mode", "filtration", .identity),
      ("/settings/filtration/duration", "filtration", .const "duration"),
      ("/settings/filtration/period", "filtration", .const "period"),
      ("/settings/filtration/reset_hour", "filtration", .const "reset_hour"),
      ("/settings/filtration/tank_percentage", "filtration", .const "tank_percentage"),
      ("/settings/filtration/stir_duration", "filtration", .const "stir_duration"),
      ("/settings/filtration/stir_period", "filtration", .const "stir_period"),
      ("/settings/filtration/boost_duration", "filtration", .const "boost_duration"),
      ("/settings/filtration/backwash/period", "filtration", .const "backwash_period"),
      ("/settings/filtration/backwash/backwash_duration", "filtration", .const "backwash_backwash_duration"),
      ("/settings/filtration/backwash/rinse_duration", "filtration", .const "backwash_rinse_duration"),
      ("/status/filtration/backwash/last", "filtration", .const "backwash_last"),
      ("/status/filtration/duration", "filtration", .const "restore_duration"),
      ("/settings/filtration/speed/eco", "filtration", .const "speed_eco"),
      ("/settings/filtration/speed/standby", "filtration", .const "speed_standby"),
      ("/settings/filtration/speed/overflow", "filtration", .const "speed_overflow"),
      ("/settings/filtration/overflow_in_comfort", "filtration", .const "overflow_in_comfort"),
      ("/settings/cover/position/eco", "filtration", .const "cover_position_eco"),
      ("/settings/tank/force_empty", "tank", .const "force_empty"),
      ("/settings/swim/mode", "swim", .identity),
      ("/settings/swim/timer", "swim", .const "timer"),
      ("/settings/swim/speed", "swim", .const "speed"),
      ("/settings/light/mode", "light", .identity),
      ("/settings/heater/setpoint", "heater", .const "setpoint"),
      ("/settings/heating/enable", "heating", .const "enable"),
      ("/settings/heating/setpoint", "heating", .const "setpoint"),
      ("/settings/heating/start_hour", "heating", .const "start_hour"),
      ("/settings/heating/min_temp", "heating", .const "min_temp"),
      ("/status/heating/total_seconds", "heating", .const "total_seconds"),
      ("/settings/disinfection/ph/enable", "disinfection", .const "ph_enable"),
      ("/settings/disinfection/ph/setpoint", "disinfection", .const "ph_setpoint"),
      ("/settings/disinfection/ph/pterm", "disinfection", .const "ph_pterm"),
      ("/settings/disinfection/orp/enable", "disinfection", .const "orp_enable"),
      ("/settings/disinfection/orp/setpoint", "disinfection", .const "orp_setpoint"),
      ("/settings/disinfection/orp/pterm", "disinfection", .const "orp_pterm"),
      ("/status/water/counter", "arduino", .const "restore_water_counter")]

/-- every topic is routed to its controller and method, and there is no other topic (by lookup: insensitive to the order of
    the entries in `register`) -/
theorem C14_fact_routing :
    (expectedRouting.all fun (t, tg, m) => (entryOf table t).map (fun e => (e.target, e.method)) == some (tg, m)) = true ∧
    table.length = expectedRouting.length := by decide +kernel


theorem C14_fact_modes :
    (entryOf table "/settings/mode").map (·.pred) =
      some (.inSet ["halt", "eco", "standby", "overflow", "comfort", "sweep", "wash", "wintering"] false) ∧
    (entryOf table "/settings/swim/mode").map (·.pred) = some (.inSet ["halt", "timed", "continuous"] false) ∧
    (entryOf table "/settings/light/mode").map (·.pred) = some (.inSet ["halt", "on"] false) := by decide +kernel

/-- the only topic whose payload is forwarded without any validation (its setter must therefore guard itself) -/
theorem C14_fact_unvalidated_topics :
    (table.filter (fun e => e.pred == .always)).map (·.topic) = ["/status/filtration/backwash/last"] := by decide +kernel

/-! ## (5) the arithmetic of the setters that can raise

`setterPrims` is the list of raising primitives the told value reaches inside the setters (AST taint scan of the
tree under test; validated only).  The theorems say the table's ranges imply every guard. -/

/-- every primitive found by the scan passes the decidable guard check against every entry that can call it
(in particular: no unguarded `strptime`, nothing the scan does not know) -/
theorem C14_setter_guards_checked : setterPrims.all (guardOk table) = true := by decide +kernel

/-- `timedelta(<unit>=v)` cannot overflow, `replace(hour=v)` gets 0..23, the period divisor is non-zero:
for every scanned primitive with an arithmetic guard, every value the dispatcher can tell (`ValueOk`) through any
entry calling that setter satisfies the guard. -/
theorem C14_setter_guards_arith :
    ∀ tmp ∈ setterPrims, tmp.2.2.isIntGuard = true →
      (∃ e ∈ table, e.target = tmp.1 ∧ e.method = .const tmp.2.1) ∧
      ∀ e ∈ table, e.target = tmp.1 → e.method = .const tmp.2.1 →
        ∀ v, ValueOk e v → ∃ k, v = .int k ∧ primSafeInt tmp.2.2 k := by
  intro tmp hmem hk
  exact guardOk_sound ((List.all_eq_true.1 C14_setter_guards_checked) tmp hmem) hk

example : (("swim", "timer", Prim.td .minutes) ∈ setterPrims) ∧ primSafeInt (.td .minutes) 60 :=
  ⟨by decide +kernel, by show tdOk .minutes 60; decide⟩

/-- `assert self.period_duration > timedelta()` in EcoMode holds: `daily / period` (round-half-even, in µs) is
positive for every daily duration and period the dispatcher accepts. -/
theorem C14_setter_guards_period_duration_positive (d p : Int)
    (hd : ∃ r, intRange table "/settings/filtration/duration" = some r ∧ r.1 ≤ d ∧ d ≤ r.2)
    (hp : ∃ r, intRange table "/settings/filtration/period" = some r ∧ r.1 ≤ p ∧ p ≤ r.2) :
    0 < divRoundHalfEven (d * 1000000) p := by
  rw [C14_fact_duration] at hd
  rw [C14_fact_period] at hp
  obtain ⟨_, ⟨⟩, h1, -⟩ := hd
  obtain ⟨_, ⟨⟩, h1', h2'⟩ := hp
  exact divRound_pos (by omega) (by omega)

example : divRoundHalfEven (1 * 1000000) 10 = 100000 := by decide +kernel

/-- the only string-valued setter parses its argument inside `try/except ValueError` -/
theorem C14_setter_guards_strptime :
    ∀ tmp ∈ setterPrims, tmp.2.2 ≠ .strptimeUnguarded ∧
      (tmp.2.1 = "backwash_last" → tmp.2.2 = .strptimeGuarded) := by decide +kernel

example : ("filtration", "backwash_last", Prim.strptimeGuarded) ∈ setterPrims := by decide +kernel

end Poupool.C14
