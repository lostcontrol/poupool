import Poupool.Generated.ActorCerts
import Poupool.Proofs.ActorLib
import Poupool.Proofs.Decisions
/-!
# C17  Wintering: outside the stir phases both pumps are off (periods/durations: `Timing.filtration_const_end_on_time`, `Timing.swim_wintering_stir`, `Timing.*_wintering_pause`, C08 + timed correspondence)
-/
namespace Poupool.C17
open Poupool.Gen

def filtrationWinterOK (s : St) : Bool :=
  !s.bad && (s.leaf != Filtration.leaf_wintering_waiting || s.v Filtration.v_dev_variable == 0) &&
  (s.leaf != Filtration.leaf_wintering_stir || s.v Filtration.v_dev_variable ≥ 1)

theorem filtration_pump_only_in_stir : ∀ s, Reach filtrationSafetyDesc s → filtrationWinterOK s = true :=
  invariant_of_closed _ _ _ Cert.filtrationSafety_closed (by decide +kernel)

def swimWinterOK (s : St) : Bool :=
  !s.bad && (s.leaf != Swim.leaf_wintering_waiting || s.v Swim.v_dev_swim == 0) &&
  (s.leaf != Swim.leaf_wintering_stir || s.v Swim.v_dev_swim == 1)

theorem swim_pump_only_in_stir : ∀ s, Reach swimSafetyDesc s → swimWinterOK s = true :=
  invariant_of_closed _ _ _ Cert.swimSafety_closed (by decide +kernel)

example : (statesOf filtrationSafetyReach).any (fun s => s.leaf == Filtration.leaf_wintering_stir) = true := by decide +kernel

/-! ## the stir decision (Model/Winter.lean, both pumps use the same shape with their own period/threshold) -/
open Poupool.Winter

/-- once the waiting phase has lasted longer than the period, a poll that sees the temperature at or below the threshold,
    or unknown, starts the stir; polls come every 2 min (C08.filtration_poll_periods / other_timeouts), hence the gap
    between two stirs is at most period + 2 min (+ delivery latency) while it stays cold -/
theorem stirs_when_cold_or_unknown (tis period thr : Int) (temp : Option Int) (hp : period < tis)
    (hc : temp = none ∨ ∃ t, temp = some t ∧ t ≤ thr) : poll tis period temp thr = .stir :=
  poll_eq_stir.2 ⟨hp, hc⟩

/-- no stir before the period has elapsed, and none when the temperature is known to be above the threshold -/
theorem no_early_or_warm_stir (tis period thr : Int) (temp : Option Int) :
    poll tis period temp thr = .stir → period < tis ∧ (temp = none ∨ ∃ t, temp = some t ∧ t ≤ thr) :=
  poll_eq_stir.1

example : poll 10801000000 10800000000 none 5000 = .stir := by decide

end Poupool.C17
