import Poupool.Generated.Decisions
import Poupool.Properties.DecisionsTie.Base

namespace Poupool.DecisionsTie
open Poupool.Gen.Decisions

/-! ### The polls of the open modes and of the scheduled-heating phase of Filtration

`do_repeat_comfort` asks Heating (with the 1 s timeout of `__heating_ask`, whose default answer is "busy") whether it is forcing or
recovering and forces the heat pump only if neither; all four polls end by re-arming themselves on EVERY path (C08: these phases
never go deaf, whatever Heating answers or fails to answer). -/

/-- C06 (rest period): comfort tells Heating `force` exactly when Heating answered that it is neither forcing nor recovering; no answer
    within the timeout counts as busy -/
theorem comfort_forces_only_when_idle (forcing recovering : Bool) :
    "tell Heating force" ∈ comfortPoll forcing recovering ↔ (forcing = false ∧ recovering = false) := by
  cases forcing <;> cases recovering <;> decide +kernel

theorem comfort_poll (forcing recovering : Bool) :
    comfortPoll forcing recovering =
      (if forcing || recovering then ["eco update", "delay 20 do_repeat_comfort"] else ["eco update", "tell Heating force", "delay 20 do_repeat_comfort"]) := by
  cases forcing <;> cases recovering <;> decide +kernel

/-- C08: every path of the four polls ends with the re-arming of the same poll, 10 s later -/
theorem open_mode_polls_rearm (forcing recovering : Bool) (speedStandby : Int) :
    (comfortPoll forcing recovering).getLast? = some "delay 20 do_repeat_comfort" ∧
    (standbyNormalPoll speedStandby).getLast? = some "delay 20 do_repeat_standby_normal" ∧
    overflowNormalPoll.getLast? = some "delay 20 do_repeat_overflow_normal" ∧
    heatingRunningPoll.getLast? = some "delay 20 do_repeat_heating_running" := by
  refine ⟨?_, ?_, by decide +kernel, by decide +kernel⟩
  · cases forcing <;> cases recovering <;> decide +kernel
  · unfold standbyNormalPoll; split <;> decide +kernel

/-- the filtration time is accounted at every poll of these phases (first effect), before anything else happens -/
theorem open_mode_polls_account (forcing recovering : Bool) (speedStandby : Int) :
    (comfortPoll forcing recovering).head? = some "eco update" ∧ (standbyNormalPoll speedStandby).head? = some "eco update" ∧
    overflowNormalPoll.head? = some "eco update" ∧ heatingRunningPoll.head? = some "eco update" := by
  refine ⟨?_, ?_, by decide +kernel, by decide +kernel⟩
  · cases forcing <;> cases recovering <;> decide +kernel
  · unfold standbyNormalPoll; split <;> decide +kernel

end Poupool.DecisionsTie
