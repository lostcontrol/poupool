import Poupool.Generated.Decisions
import Poupool.Properties.DecisionsTie.Base
import Poupool.Model.Tank

namespace Poupool.DecisionsTie
open Poupool.Gen.Decisions

def absEnterFill : List String → Option (Bool × Bool)
  | ["publish tank_state", "valve main on"] => some (true, true)
  | ["publish tank_state", "tell self normal", "stop repeat"] => some (false, false)
  | _ => none

theorem tank_enter_fill (c : Tank.Cfg) (h : Int) : absEnterFill (tankEnterFill c h) = some (Tank.enterFill c h) := by
  unfold tankEnterFill Tank.enterFill; decide_tree

def absTank (poll : String) : List String → Option Tank.Act
  | ["tell Filtration halt", "tell self halt"] => some .emergency
  | ["tell self low"] => some .toLow
  | ["tell self normal"] => some .toNormal
  | ["tell self high"] => some .toHigh
  | [d] => if d = "delay 10 " ++ poll then some (.rearm 10) else if d = "delay 20 " ++ poll then some (.rearm 20) else none
  | _ => none

theorem tank_poll_fill (c : Tank.Cfg) (h tis : Int) :
    absTank "do_repeat_fill" (tankPollFill c h tis) = some (Tank.pollFill c h tis) := by
  unfold tankPollFill Tank.pollFill Tank.twoHours; decide_tree

theorem tank_poll_low (c : Tank.Cfg) (h tis : Int) :
    absTank "do_repeat_low" (tankPollLow c h tis) = some (Tank.pollLow c h tis) := by
  unfold tankPollLow Tank.pollLow Tank.sixHours; decide_tree

theorem tank_poll_normal (c : Tank.Cfg) (h : Int) :
    absTank "do_repeat_normal" (tankPollNormal c h) = some (Tank.pollNormal c h) := by
  unfold tankPollNormal Tank.pollNormal; decide_tree

theorem tank_poll_high (c : Tank.Cfg) (h : Int) :
    absTank "do_repeat_high" (tankPollHigh c h) = some (Tank.pollHigh c h) := by
  unfold tankPollHigh Tank.pollHigh; decide_tree

/-- the height the polls compare is the sensor's value itself (published on the way), not a rounded or filtered copy -/
theorem tank_height_is_sensor_value : tankHeight = ["publish tank_height", "return sensor value"] := rfl

/-! non-vacuity: the generated function really takes different branches -/
example : tankPollLow ⟨5, 10, 30, 70⟩ 9 0 = ["tell Filtration halt", "tell self halt"] ∧ tankPollLow ⟨5, 10, 30, 70⟩ 35 0 = ["tell self normal"]
    ∧ tankPollLow ⟨5, 10, 30, 70⟩ 20 0 = ["delay 10 do_repeat_low"] := by decide +kernel

end Poupool.DecisionsTie
