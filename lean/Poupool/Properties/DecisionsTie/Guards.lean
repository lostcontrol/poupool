import Poupool.Generated.Decisions
import Poupool.Properties.DecisionsTie.Base
import Poupool.Model.Guards

namespace Poupool.DecisionsTie
open Poupool.Gen.Decisions

/-! ### Guards of the transition tables, the due-date test of the automatic backwash, `Tank.force_empty`

The guard methods ask another controller `is_<phase>()`; the answer of `is_<phase>()` is "the asked controller's phase is
<phase>" (semantics of the `transitions` library; validated by the exhaustive differential of checks/guards_common.py).
Each theorem feeds the regenerated guard with those answers for an ARBITRARY phase name of the asked controller. -/

def absRet : List String → Option Bool
  | ["return True"] => some true
  | ["return False"] => some false
  | _ => none

theorem start_backwash (now last periodDays : Int) (tankHigh : Bool) :
    absRet (startBackwash now last periodDays tankHigh) = some (Guards.startBackwash now last periodDays tankHigh) := by
  unfold startBackwash Guards.startBackwash; grind [absRet]

/-- hence an automatic backwash is requested only when at least `period` whole days have passed since the last one AND the tank is high -/
theorem start_backwash_only_when_due (now last periodDays : Int) (tankHigh : Bool)
    (h : startBackwash now last periodDays tankHigh = ["return True"]) : periodDays * 86400000000 ≤ now - last ∧ tankHigh = true := by
  unfold startBackwash at h; grind

def absForce : List String → Option Guards.ForceAct
  | ["set self.__force_empty := value"] => some .nothing
  | ["set self.__force_empty := value", "tell Filtration halt"] => some .haltFiltration
  | ["set self.__force_empty := value", "tell self fill"] => some .startFill
  | _ => none

theorem tank_force_empty (previous value halted : Bool) :
    absForce (tankForceEmpty previous value halted) = some (Guards.forceEmpty previous value halted) := by
  cases previous <;> cases value <;> cases halted <;> decide +kernel

theorem tank_is_low (tank : String) :
    absRet (tankIsLow (tank == "halt") (tank == "low") (tank == "fill")) = some (Guards.tankIsLow tank) := by
  unfold tankIsLow Guards.tankIsLow; grind [absRet]

theorem tank_is_high (tank : String) : absRet (tankIsHigh (tank == "high")) = some (Guards.tankIsHigh tank) := by
  unfold tankIsHigh Guards.tankIsHigh; grind [absRet]

theorem pump_stopped_in_standby (speed : Int) : absRet (pumpStoppedInStandby speed) = some (Guards.pumpStoppedInStandby speed) := by
  unfold pumpStoppedInStandby Guards.pumpStoppedInStandby; grind [absRet]

theorem swim_is_wintering (f : String) :
    absRet (swimIsWintering (f == "wintering_waiting") (f == "wintering_stir")) = some (Guards.isWintering f) := by
  unfold swimIsWintering Guards.isWintering; grind [absRet]

theorem swim_allow_swim (f : String) :
    absRet (swimAllowSwim (f == "overflow_normal") (f == "standby_normal") (f == "comfort") (Guards.isWintering f)) = some (Guards.allowSwim f) := by
  unfold swimAllowSwim Guards.allowSwim; grind [absRet]

theorem heating_allow (f : String) : absRet (heatingAllow (f == "heating_running")) = some (Guards.allowHeating f) := by
  unfold heatingAllow Guards.allowHeating; grind [absRet]

theorem heating_ready (f : String) :
    absRet (heatingReady (f == "eco_waiting") (f == "eco_normal")) = some (Guards.readyForHeating f) := by
  unfold heatingReady Guards.readyForHeating; grind [absRet]

/-! non-vacuity -/
example : startBackwash (31 * 86400000000) 0 30 true = ["return True"] ∧ startBackwash (29 * 86400000000) 0 30 true = ["return False"]
    ∧ startBackwash (31 * 86400000000) 0 30 false = ["return False"] := by decide +kernel
example : tankForceEmpty false true false = ["set self.__force_empty := value", "tell Filtration halt"]
    ∧ tankForceEmpty true false true = ["set self.__force_empty := value", "tell self fill"] := by decide +kernel

end Poupool.DecisionsTie
