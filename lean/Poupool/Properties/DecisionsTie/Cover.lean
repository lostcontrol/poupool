import Poupool.Generated.Decisions
import Poupool.Properties.DecisionsTie.Base
import Poupool.Model.Cover

namespace Poupool.DecisionsTie
open Poupool.Gen.Decisions

def absCover (poll done : String) : List String → Option Cover.Act
  | ["publish filtration_state", a] =>
      if a = "delay 10 " ++ poll then some .poll
      else if a = "delay 4 " ++ done then some .doneAfter2s
      else if a = "tell self " ++ done then some .doneNow
      else none
  | _ => none

theorem cover_opening_poll (position : Int) :
    absCover "do_repeat_opening" "opened" (coverOpeningPoll position) = some (Cover.openingPoll position) := by
  unfold coverOpeningPoll Cover.openingPoll; decide_tree

theorem cover_closing_poll (position eco : Int) :
    absCover "do_repeat_closing" "closed" (coverClosingPoll position eco) = some (Cover.closingPoll position eco) := by
  unfold coverClosingPoll Cover.closingPoll; decide_tree

/-! non-vacuity: the generated function really takes different branches -/
example : coverClosingPoll 30 30 = ["publish filtration_state", "tell self closed"] ∧ coverClosingPoll 0 0 = ["publish filtration_state", "delay 4 closed"] := by decide +kernel

end Poupool.DecisionsTie
