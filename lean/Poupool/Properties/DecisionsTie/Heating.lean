import Poupool.Generated.Decisions
import Poupool.Properties.DecisionsTie.Base
import Poupool.Model.Heating

namespace Poupool.DecisionsTie
open Poupool.Gen.Decisions

/-- `do_repeat_waiting` always re-arms its poll (last effect); before that it may skip the day, or ask Filtration to
    switch to heating and, when that was accepted, tell itself `heat` -/
def absWaiting : List String → Option Heating.WaitAct
  | ["delay 20 do_repeat_waiting"] => some .rearm
  | ["ask Filtration heat", "delay 20 do_repeat_waiting"] => some .rearm
  | ["set next start", "delay 20 do_repeat_waiting"] => some .skipToday
  | ["ask Filtration heat", "tell self heat", "delay 20 do_repeat_waiting"] => some .heat
  | _ => none

theorem heating_waiting_poll (c : Heating.Cfg) (s : Heating.St) (now : Int) (pool air : Option Int) (ready allow : Bool) :
    absWaiting (heatingWaitingPoll c s now pool air ready allow) = some (Heating.waitingPoll c s now pool air ready allow).1 := by
  unfold heatingWaitingPoll Heating.waitingPoll Heating.poolReached Heating.airTooCold
  grind [absWaiting]

/-- Filtration is asked to switch to heating only when every precondition of the policy held at this poll -/
theorem heating_asks_only_when_due (c : Heating.Cfg) (s : Heating.St) (now : Int) (pool air : Option Int) (ready allow : Bool)
    (h : "ask Filtration heat" ∈ heatingWaitingPoll c s now pool air ready allow) :
    s.enable = true ∧ s.nextStart ≤ now ∧ Heating.poolReached c s pool = false ∧ Heating.airTooCold s air = false ∧ ready = true := by
  unfold heatingWaitingPoll at h
  unfold Heating.poolReached Heating.airTooCold
  grind

def absHeating : List String → Option Heating.HeatAct
  | ["tell self wait"] => some .stop
  | ["delay 20 do_repeat_heating"] => some .rearm
  | _ => none

theorem heating_heating_poll (c : Heating.Cfg) (s : Heating.St) (pool air : Option Int) :
    absHeating (heatingHeatingPoll c s pool air) = some (Heating.heatingPoll c s pool air) := by
  unfold heatingHeatingPoll Heating.heatingPoll Heating.poolDone Heating.airStop
  grind [absHeating]

/-! #### the daily schedule: what `__set_next_start`, `setpoint`, `start_hour` and `on_exit_heating` leave in `__next_start`
(C16 "at most once per daily schedule unless the user changes setpoint or start hour" is proved on `Heating.exitHeating`,
`setSetpoint`, `setStartHour`; here they are the values the regenerated methods compute, for every state and instant) -/

theorem heating_set_next_start (s : Heating.St) (now : Int) :
    heatingSetNextStartFinal s now = [Heating.nextDayStart now s.startHour] := by
  unfold heatingSetNextStartFinal Heating.nextDayStart Heating.day Heating.hourUs; simp

theorem heating_setpoint_schedule (s : Heating.St) (now v : Int) :
    heatingSetpointFinal s now v = [(Heating.setSetpoint s now v).nextStart, (Heating.setSetpoint s now v).setpoint] := by
  unfold heatingSetpointFinal Heating.setSetpoint Heating.day; split <;> simp_all <;> omega

theorem heating_start_hour_schedule (s : Heating.St) (now v : Int) :
    heatingStartHourFinal s now v = [(Heating.setStartHour s now v).nextStart, (Heating.setStartHour s now v).startHour] := by
  unfold heatingStartHourFinal Heating.setStartHour Heating.nextDayStart Heating.day Heating.hourUs
  simp only []
  split <;> split <;> simp_all <;> omega

theorem heating_exit_schedule (s : Heating.St) (now : Int) (allow : Bool) :
    heatingExitFinal s now allow = [(Heating.exitHeating s now).nextStart] := by
  unfold heatingExitFinal Heating.exitHeating Heating.nextDayStart Heating.day Heating.hourUs; split <;> simp <;> omega

/-- the heat-pump valve is closed when `heating` is left, and Filtration is told to start the post-run delay only if it is (still)
    in heating_running -/
theorem heating_exit_effects (s : Heating.St) (now : Int) (allow : Bool) :
    "valve heating off" ∈ heatingExit s now allow ∧ ("tell Filtration heating_delay" ∈ heatingExit s now allow ↔ allow = true) := by
  cases allow <;> simp [heatingExit]

/-- the temperatures the polls compare are the reader's values for the requested sensor, the pool sensor by default -/
theorem heating_reads_the_reader : heatingReadTemperature = ["signature self, key='temperature_pool'", "return reader value of key"] := rfl

/-! non-vacuity: the generated function really takes different branches -/
example : heatingWaitingPoll ⟨500, 500, 1000⟩ ⟨true, 0, 0, 26000, 15000⟩ 10 (some 20000) (some 18000) true true
    = ["ask Filtration heat", "tell self heat", "delay 20 do_repeat_waiting"] := by decide +kernel

end Poupool.DecisionsTie
