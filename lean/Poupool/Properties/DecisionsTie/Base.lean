/-!
  Tie of the hand-written decision models to the functions REGENERATED from the poll methods of the working tree
  (translate/decisions.py → Generated/Decisions.lean).  A generated function returns the ordered list of effects of the
  path taken; `abs*` reads such a list back as the action of the hand-written model (`none` for any list that no action
  of the model stands for: an effect added, dropped, reordered or opaque).  Each theorem states, for ALL inputs, that the
  regenerated code performs exactly the effects of the action the model decides.  The K1 theorems of C04, C05, C07, C12,
  C13, C16 and C17 are proved on the hand-written models; with these equalities they are statements about the code that is
  in the tree (trusting the translator's symbolic execution of the `if`/`return` subset, see DESIGN.md).
-/
namespace Poupool.DecisionsTie

/-- closes goals that remain after both functions have been unfolded: case-split every `if`/`match`, then arithmetic -/
macro "decide_tree" : tactic =>
  `(tactic| first | (((repeat' split) <;> first | rfl | omega | (simp_all; done) | (simp_all <;> omega) | (exfalso; omega)); done) | grind)

end Poupool.DecisionsTie
