import Poupool.Generated.Decisions
import Poupool.Properties.DecisionsTie.Base
import Poupool.Model.Winter

namespace Poupool.DecisionsTie
open Poupool.Gen.Decisions

/-! ### Wintering polls (Filtration and Swim) and the timed swim poll -/

def absWinter : List String → Option Winter.Act
  | ["tell self wintering_stir"] => some .stir
  | ["delay 240 do_repeat_wintering_waiting"] => some .rearm
  | _ => none

theorem filtration_winter_poll (tis periodS : Int) (temp : Option Int) (thr : Int) :
    absWinter (filtrationWinterPoll tis periodS temp thr) = some (Winter.poll tis (periodS * 1000000) temp thr) := by
  unfold filtrationWinterPoll Winter.poll; decide_tree

theorem swim_winter_poll (tis periodS : Int) (temp : Option Int) (thr : Int) :
    absWinter (swimWinterPoll tis periodS temp thr) = some (Winter.poll tis (periodS * 1000000) temp thr) := by
  unfold swimWinterPoll Winter.poll; decide_tree

/-- the pump is (re)commanded and the timer updated BEFORE the decision, in that order -/
def absTimed : List String → Option Winter.SwimAct
  | ["pump swim speed setting", "timer update now", "tell self halt"] => some .halt
  | ["pump swim speed setting", "timer update now", "delay 2 do_repeat_timed"] => some .rearm
  | _ => none

theorem swim_timed_poll (t : Winter.Timer) (delay now : Int) :
    absTimed (swimTimedPoll (decide ((t.update now).dur ≥ delay))) = some (Winter.timedPoll t delay now).1 := by
  unfold swimTimedPoll Winter.timedPoll
  by_cases h : (t.update now).dur ≥ delay <;> simp [h, absTimed]

/-! non-vacuity: the generated function really takes different branches -/
example : filtrationWinterPoll 3601000000 3600 (some 6000) 5000 = ["delay 240 do_repeat_wintering_waiting"] ∧ filtrationWinterPoll 3601000000 3600 none 5000 = ["tell self wintering_stir"] := by decide +kernel

end Poupool.DecisionsTie
