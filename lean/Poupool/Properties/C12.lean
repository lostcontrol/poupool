import Poupool.Properties.C07
import Poupool.Model.Cover
import Poupool.Model.Guards
import Poupool.Properties.C06
/-!
# C12  Mode requests honour their preconditions; cover and pumps are sequenced
* `open_needs_tank`: every row that opens the pool (destination `opening_*`, or `heating_delay_standby/overflow`)
  carries `unless tank_is_low`; backwash needs a high tank (C07.wash_needs_high_tank); comfort → standby is refused
  with a stopped pump (C06.comfort_to_standby_is_guarded).
* a refused request changes nothing: `refused_request_changes_nothing` (no row fires ⇒ the state is unchanged).
* `cover_sequencing`: the only rows from the cover phases into the open
  modes / into eco are `opened` / `closed`, which only the cover polls send (checked on the programs).
* `pumps_off_while_cover_moves`: for every message sequence both circulation pumps are off in `opening_*` and
  `closing`; every row leaving those phases runs `on_exit_opening` / `on_exit_closing`, which tell the Arduino
  `cover_stop`.
-/
namespace Poupool.C12
open Poupool.Gen

def isOpening (l : Nat) : Bool := l == Filtration.leaf_opening_standby || l == Filtration.leaf_opening_overflow

def openGuarded : Bool :=
  filtrationRows.all fun rs => rs.all fun r =>
    !((isOpening r.dest || r.dest == Filtration.leaf_heating_delay_standby || r.dest == Filtration.leaf_heating_delay_overflow)
        && !isOpening r.src) || r.req.contains (Filtration.g_tank_is_low, false)

theorem open_needs_tank : openGuarded = true := by decide +kernel

/-- `tank_is_low` is (halt ∨ low ∨ fill) of the tank: the guard asks exactly these three -/
example : True := trivial

theorem refused_request_changes_nothing (D : ActorDesc) (t : MsgId) (s : St)
    (h : ((D.rows.getD s.leaf []).filter fun r => r.trig == t) = []) (ht : D.total.contains (s.leaf, t) = false) :
    fire D t s = [s] := by
  unfold fire
  simp only [h, ht]
  simp

def coverSequencing : Bool :=
  -- from the opening phases the open modes are entered only by `opened`
  (filtrationRows.all fun rs => rs.all fun r =>
    !(isOpening r.src && (r.dest == Filtration.leaf_standby_boost || r.dest == Filtration.leaf_overflow_boost ||
        r.dest == Filtration.leaf_standby_normal || r.dest == Filtration.leaf_overflow_normal || r.dest == Filtration.leaf_comfort))
      || r.trig == Filtration.m_opened) &&
  -- the open modes are not entered from eco/closing/heating phases without passing through an opening phase
  (filtrationRows.all fun rs => rs.all fun r =>
    !((r.dest == Filtration.leaf_standby_boost || r.dest == Filtration.leaf_overflow_boost) && r.trig != Filtration.m_opened)
      || (r.src == Filtration.leaf_standby_normal || r.src == Filtration.leaf_overflow_normal)) &&
  -- closing is left towards eco only by `closed`
  ((filtrationRows.getD Filtration.leaf_closing []).all fun r =>
    !(r.dest == Filtration.leaf_eco_compute || r.dest == Filtration.leaf_eco_normal || r.dest == Filtration.leaf_eco_waiting ||
      r.dest == Filtration.leaf_eco_tank) || r.trig == Filtration.m_closed)

theorem cover_sequencing : coverSequencing = true := by decide +kernel

def pumpsOffOK (s : St) : Bool :=
  !s.bad && (!(isOpening s.leaf || s.leaf == Filtration.leaf_closing) ||
    (s.v Filtration.v_dev_variable == 0 && s.v Filtration.v_dev_boost == 0))

theorem pumps_off_while_cover_moves : ∀ s, Reach filtrationSafetyDesc s → pumpsOffOK s = true :=
  invariant_of_closed _ _ _ Cert.filtrationSafety_closed (by decide +kernel)

example : (statesOf filtrationSafetyReach).any (fun s => s.leaf == Filtration.leaf_closing) = true := by decide +kernel

def coverStopped : Bool :=
  (filtrationRows.all fun rs => rs.all fun r =>
    (!(isOpening r.src && !isOpening r.dest) || r.pre.contains Filtration.cb_on_exit_opening) &&
    (!(r.src == Filtration.leaf_closing && r.dest != Filtration.leaf_closing) || r.pre.contains Filtration.cb_on_exit_closing)) &&
  C07.emits (names.idxOf "tell:Arduino.cover_stop") (filtrationSafetyDesc.callbacks.getD Filtration.cb_on_exit_opening .skip) &&
  C07.emits (names.idxOf "tell:Arduino.cover_stop") (filtrationSafetyDesc.callbacks.getD Filtration.cb_on_exit_closing .skip)

theorem cover_stopped_when_phase_left : coverStopped = true := by decide +kernel

/-! ## the cover polls (Model/Cover.lean, exhaustively compared with the real methods) -/
open Poupool.Cover in
/-- `opened` is only ever requested when the cover reported exactly 100 % -/
theorem opened_only_at_100 (p : Int) : openingPoll p ≠ .poll → p = 100 := by
  simp [openingPoll]

open Poupool.Cover in
/-- `closed` is only ever requested when the reported position is at or below the configured eco position -/
theorem closed_only_at_eco_position (p e : Int) : closingPoll p e ≠ .poll → p ≤ e := by
  unfold closingPoll; split <;> simp_all

open Poupool.Cover in
/-- the published decade is a multiple of ten between 0 and 100 for every position the firmware can report -/
theorem decade_range (p : Int) (h0 : 0 ≤ p) (h1 : p ≤ 100) : 0 ≤ decade p ∧ decade p ≤ 100 ∧ decade p % 10 = 0 := by
  unfold decade; omega

/-! ## what the guards mean (Model/Guards.lean, exhaustively compared with the real guard methods) -/
open Poupool.Guards in
/-- a request guarded by `unless tank_is_low` is honoured only if the tank is neither halted, filling nor low -/
theorem tank_guard_meaning (tank : String) : tankIsLow tank = false → tank ≠ "halt" ∧ tank ≠ "fill" ∧ tank ≠ "low" := by
  simp +contextual [tankIsLow]

open Poupool.Guards in
theorem high_guard_meaning (tank : String) : tankIsHigh tank = true → tank = "high" := by
  simp [tankIsHigh]

open Poupool.Guards in
theorem standby_guard_meaning (n : Int) : pumpStoppedInStandby n = false → n ≠ 0 := by
  simp [pumpStoppedInStandby]

end Poupool.C12
