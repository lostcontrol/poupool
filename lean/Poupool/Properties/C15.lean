import Poupool.Generated.ActorCerts
import Poupool.Proofs.ActorLib
/-!
# C15 (a)  the last value published on /status/<controller>/state names the controller's actual phase

For every message sequence, after every handler: the last state string published is the UI name of the current
phase (`filtrationNameOf`, a fixed oracle table; `closing_*` / `opening_*` stand for the computed `closing_<10·⌊p/10⌋>` strings;
the transient `reload_*` phases and the `heating_delay_*` sub-phases publish nothing of their own).
Parts (b), (c) (UI map, sitemap): Properties/C15Ui.lean.
-/
namespace Poupool.C15
open Poupool.Gen

def filtrationNameOf (l : Nat) : List Int :=
  if l == Filtration.leaf_halt then [N.halt_, N.none_]
  else if l == Filtration.leaf_closing then [N.closing_, N.closing_star]
  else if l == Filtration.leaf_opening_standby || l == Filtration.leaf_opening_overflow then [N.opening_, N.opening_star]
  else if l == Filtration.leaf_eco_compute then [N.eco_compute_]
  else if l == Filtration.leaf_eco_normal then [N.eco_normal_]
  else if l == Filtration.leaf_eco_tank then [N.eco_tank_]
  else if l == Filtration.leaf_eco_waiting then [N.eco_waiting_]
  else if l == Filtration.leaf_heating_running then [N.heating_running_]
  else if l == Filtration.leaf_heating_delay_none || l == Filtration.leaf_heating_delay_standby
        || l == Filtration.leaf_heating_delay_overflow then [N.heating_delay_]
  else if l == Filtration.leaf_standby_boost then [N.standby_boost_]
  else if l == Filtration.leaf_standby_normal then [N.standby_]
  else if l == Filtration.leaf_overflow_boost then [N.overflow_boost_]
  else if l == Filtration.leaf_overflow_normal then [N.overflow_]
  else if l == Filtration.leaf_comfort then [N.comfort_]
  else if l == Filtration.leaf_sweep then [N.sweep_]
  else if l == Filtration.leaf_wash_backwash then [N.backwash_]
  else if l == Filtration.leaf_wash_rinse then [N.rinse_]
  else if l == Filtration.leaf_wintering_stir then [N.wintering_stir_]
  else if l == Filtration.leaf_wintering_waiting then [N.wintering_waiting_]
  else []  -- reload_*: transient, nothing required

def isReload (l : Nat) : Bool :=
  l == Filtration.leaf_reload_eco || l == Filtration.leaf_reload_standby || l == Filtration.leaf_reload_overflow

def filtrationPubOK (s : St) : Bool :=
  !s.bad && (isReload s.leaf || (filtrationNameOf s.leaf).contains (s.v Filtration.v_pub))

theorem filtration_state_published : ∀ s, Reach filtrationSafetyDesc s → filtrationPubOK s = true :=
  invariant_of_closed _ _ _ Cert.filtrationSafety_closed (by decide +kernel)

def tankPubOK (s : St) : Bool :=
  !s.bad &&
  ((s.leaf == Tank.leaf_halt && (s.v Tank.v_pub == N.halt_ || s.v Tank.v_pub == N.none_)) ||
   (s.leaf == Tank.leaf_fill && s.v Tank.v_pub == N.fill_) || (s.leaf == Tank.leaf_low && s.v Tank.v_pub == N.low_) ||
   (s.leaf == Tank.leaf_normal && s.v Tank.v_pub == N.normal_) || (s.leaf == Tank.leaf_high && s.v Tank.v_pub == N.high_))

theorem tank_state_published : ∀ s, Reach tankSafetyDesc s → tankPubOK s = true :=
  invariant_of_closed _ _ _ Cert.tankSafety_closed (by decide +kernel)

def heatingPubOK (s : St) : Bool :=
  !s.bad &&
  ((s.leaf == Heating.leaf_halt && (s.v Heating.v_pub == N.halt_ || s.v Heating.v_pub == N.none_)) ||
   (s.leaf == Heating.leaf_waiting && s.v Heating.v_pub == N.waiting_) ||
   (s.leaf == Heating.leaf_heating && s.v Heating.v_pub == N.heating_) ||
   (s.leaf == Heating.leaf_forcing && s.v Heating.v_pub == N.heating_) ||
   (s.leaf == Heating.leaf_recovering && s.v Heating.v_pub == N.recovering_))

theorem heating_state_published : ∀ s, Reach heatingSafetyDesc s → heatingPubOK s = true :=
  invariant_of_closed _ _ _ Cert.heatingSafety_closed (by decide +kernel)

def disinfectionPubOK (s : St) : Bool :=
  !s.bad &&
  ((s.leaf == Disinfection.leaf_halt && (s.v Disinfection.v_pub == N.halt_ || s.v Disinfection.v_pub == N.none_)) ||
   (s.leaf == Disinfection.leaf_waiting && s.v Disinfection.v_pub == N.waiting_) ||
   (s.leaf == Disinfection.leaf_running_adjusting && s.v Disinfection.v_pub == N.adjusting_) ||
   (s.leaf == Disinfection.leaf_running_treating && s.v Disinfection.v_pub == N.treating_))

theorem disinfection_state_published : ∀ s, Reach disinfectionSafetyDesc s → disinfectionPubOK s = true :=
  invariant_of_closed _ _ _ Cert.disinfectionSafety_closed (by decide +kernel)

def swimPubOK (s : St) : Bool :=
  !s.bad &&
  ((s.leaf == Swim.leaf_halt && (s.v Swim.v_pub == N.halt_ || s.v Swim.v_pub == N.none_)) ||
   (s.leaf == Swim.leaf_timed && s.v Swim.v_pub == N.timed_) ||
   (s.leaf == Swim.leaf_continuous && s.v Swim.v_pub == N.continuous_) ||
   (s.leaf == Swim.leaf_wintering_stir && s.v Swim.v_pub == N.wintering_stir_) ||
   (s.leaf == Swim.leaf_wintering_waiting && s.v Swim.v_pub == N.wintering_waiting_))

theorem swim_state_published : ∀ s, Reach swimSafetyDesc s → swimPubOK s = true :=
  invariant_of_closed _ _ _ Cert.swimSafety_closed (by decide +kernel)

def lightPubOK (s : St) : Bool :=
  !s.bad &&
  ((s.leaf == Light.leaf_halt && (s.v Light.v_pub == N.halt_ || s.v Light.v_pub == N.none_)) ||
   (s.leaf == Light.leaf_on && s.v Light.v_pub == N.on_))

theorem light_state_published : ∀ s, Reach lightSafetyDesc s → lightPubOK s = true :=
  invariant_of_closed _ _ _ Cert.lightSafety_closed (by decide +kernel)

example : (statesOf filtrationSafetyReach).any (fun s => s.v Filtration.v_pub == N.closing_star) = true := by decide +kernel

end Poupool.C15
