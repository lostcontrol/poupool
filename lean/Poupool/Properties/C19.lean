/-
C19  Cover firmware keeps the motor inside its envelope and the protocol sound.

Model: Poupool/Model/Firmware.lean (constants, end-point operators and command table regenerated from
arduino/cover/cover.ino into Generated/FirmwareConst.lean on every run).  All theorems quantify over ALL event
sequences (`run s evs` is a fold over the list, no bound on its length), every EEPROM content `(p, c, o)` and every
interleaving of serial bytes, loop iterations, encoder / water interrupts, button callbacks and interrupts inside
the relay `delay()`.
-/
import Poupool.Proofs.FirmwareProto

namespace Poupool.C19
open Poupool.Firmware Poupool.FirmwareConst

/-! ## The numbers of the statement are the numbers of the sketch -/

/-- Buffer of 32 (a line of at most 30 characters + NUL fits, the 32nd byte forces a dispatch), 3 s / 50 pps = 150
pulses of margin, 500 ms / 10 pulses stall window, percentage = constrain(100 * .., 0, 100), end points tested with
`>=` / `<=` without offset, `process_direction` stores the direction it read at its top, terminator `***`. -/
theorem statement_constants :
    bufSize = 32 ∧ bufFullAt = 31 ∧ bufIgnoreAt = 32 ∧ maxRunningMarginMs = 3000 ∧ pulsesPerSecond = 50 ∧
    maxPulseMargin = 150 ∧ stallWindowMs = 500 ∧ stallMinPulses = 10 ∧ pctMul = 100 ∧ pctLo = 0 ∧ pctHi = 100 ∧
    stepOpenStrict = false ∧ stepOpenOffset = 0 ∧ stepCloseStrict = false ∧ stepCloseOffset = 0 ∧
    prevDirRereadsVolatile = false ∧
    terminator = [42, 42, 42] ∧ emergencyTerminator = [42, 42, 42] ∧
    emergencyText = [101, 109, 101, 114, 103, 101, 110, 99, 121, 32, 115, 116, 111, 112] := by
  decide +kernel

/-! ## (a) ReadBuffer and framing -/

/-- No out-of-bounds access, ever: after ANY event sequence from power-up no write `m_buffer[i]` with `i ≥ 32` has
happened, `strcmp` / `println(buffer)` never ran over a buffer without NUL, and the index is at most 31 (so the next
write is in bounds). -/
theorem buffer_never_out_of_bounds (p c o : Int) (evs : List Ev) :
    (run (init p c o) evs).oobWrite = false ∧ (run (init p c o) evs).oobRead = false ∧
    (run (init p c o) evs).idx ≤ 31 ∧ (run (init p c o) evs).buf.length = 32 := by
  obtain ⟨pre, ⟨h1, h2, h3, h4⟩, hl⟩ := rbok_run evs (rbok_init p c o)
  exact ⟨h3, h4, (show (run (init p c o) evs).idx = _ from h1) ▸ hl,
    by rw [show (run (init p c o) evs).buf = _ from h2]; simp; omega⟩

set_option maxRecDepth 100000 in
example : (run (init 5 0 100) ((List.replicate 100 (Ev.byte 200)) ++ [.pulse, .tick 600])).idx = 4 := by decide +kernel

/-- Interleaving independence: the ReadBuffer state (index, content, number of dispatches, last dispatched string)
after any event sequence is the pure `ReadBuffer::add`/`clear` automaton run over the serial bytes alone; loop
iterations, interrupts, buttons and emergency stops in between change nothing. -/
theorem buffer_state_depends_only_on_bytes (s : St) (evs : List Ev) :
    rbOf (run s evs) = rbFeed (rbOf s) (bytesOf evs) :=
  rbOf_run evs s

example : bytesOf [.byte 111, .pulse, .tick 20, .byte 10, .btn .released] = [111, 10] := by decide +kernel

/-- A line of at most 30 characters (no CR, no LF; NUL allowed) followed by `\n`, from an in-step firmware and with
ANY other events interleaved: no dispatch before the newline, exactly one dispatch at the newline, on the C string
`line` up to its first NUL, and the buffer is empty again. -/
theorem short_line_one_dispatch (s : St) (line : List Nat) (evs evs' : List Ev)
    (hs : Empty (rbOf s)) (hlen : line.length ≤ 30) (hc : ∀ c ∈ line, c ≠ 10 ∧ c ≠ 13)
    (hev : bytesOf evs = line ++ [10]) (hev' : bytesOf evs' = line) :
    (run s evs').nDispatch = s.nDispatch ∧
    (run s evs).nDispatch = s.nDispatch + 1 ∧
    (run s evs).lastCmd = line.takeWhile (fun x => x != 0) ∧
    Empty (rbOf (run s evs)) := by
  obtain ⟨h, hn⟩ := hs.holds.feed line (by simp; omega) hc
  have e := rbOf_run evs s
  rw [hev, rbFeed_append, show rbFeed _ [10] = _ from h.dispatch (by simp; omega) (by decide) (.inr rfl), hn] at e
  rw [← hev', ← rbOf_run] at hn
  refine ⟨hn, congrArg RB.nDispatch e, congrArg RB.lastCmd e, ?_⟩
  rw [e]; exact ⟨rfl, rfl, rfl, rfl⟩

example : Empty (rbOf (init 1 2 3)) ∧ bytesOf [.byte 115, .pulse, .byte 116, .tick 5, .byte 10] = [115, 116] ++ [10] :=
  ⟨empty_init 1 2 3, by decide +kernel⟩

/-- A line of exactly 31 characters: its terminating byte (the `\n`, or any byte but CR) is the 32nd byte, is consumed
as the forced NUL, and gives exactly one dispatch on the 31 characters; the firmware is in step afterwards. -/
theorem line_31_one_dispatch (s : St) (line : List Nat) (b : Nat) (evs : List Ev)
    (hs : Empty (rbOf s)) (hlen : line.length = 31) (hc : ∀ c ∈ line, c ≠ 10 ∧ c ≠ 13) (hb : b ≠ 13)
    (hev : bytesOf evs = line ++ [b]) :
    (run s evs).nDispatch = s.nDispatch + 1 ∧
    (run s evs).lastCmd = line.takeWhile (fun x => x != 0) ∧
    Empty (rbOf (run s evs)) := by
  obtain ⟨h, hn⟩ := hs.holds.feed line (by simp; omega) hc
  have e := rbOf_run evs s
  rw [hev, rbFeed_append, show rbFeed _ [b] = _ from h.dispatch (by simp; omega) hb (.inl (by simpa using hlen)), hn] at e
  refine ⟨congrArg RB.nDispatch e, congrArg RB.lastCmd e, ?_⟩
  rw [e]; exact ⟨rfl, rfl, rfl, rfl⟩

example : (List.replicate 31 65).length = 31 ∧ ∀ c ∈ List.replicate 31 65, c ≠ 10 ∧ c ≠ 13 := by decide +kernel

/-- Back in step at the next newline, whatever came before: after ANY event sequence from power-up (garbage, lines
of any length, NUL, bytes ≥ 0x80) whose last serial byte is `\n` and which ends with that byte's loop iteration,
the buffer is empty. -/
theorem any_line_back_in_step (p c o : Int) (evs : List Ev) :
    Empty (rbOf (run (init p c o) (evs ++ [.byte 10]))) := by
  obtain ⟨pre, h, hl⟩ := rbok_run evs (rbok_init p c o)
  rw [run_snoc, rbOf_step]
  show Empty (rbStep _ 10)
  rw [h.dispatch hl (by decide) (.inr rfl)]; exact ⟨rfl, rfl, rfl, rfl⟩

set_option maxRecDepth 100000 in
example : (run (init 0 0 0) ((List.replicate 77 (Ev.byte 255)) ++ [.byte 10])).idx = 0 := by decide +kernel

/-- What "longer lines" really do (NOT "only error replies"): a line of 32 + k characters is cut after 31; the 32nd
character is dropped; the rest is taken as a NEW line.  Witness: 32 letters followed by `open` and a newline: the
firmware replies `error command AB..E`, then executes `open` and drives the motor. -/
theorem long_line_can_execute_command_counterexample :
    let line := (List.range 32).map (fun i => 65 + i % 26) ++ ascii "open"
    let s := run (init 50 0 100) ((line ++ [10]).map Ev.byte)
    line.length = 36 ∧ s.nDispatch = 2 ∧ s.dir = .opn ∧ s.pinClose = true ∧ s.lastCmd = ascii "open" := by
  decide +kernel

/-- Sending a command line: after ANY events whose serial bytes are `cmd` (at most 30 characters, no CR / LF / NUL),
from an in-step firmware, the loop iteration that reads the `\n` runs the dispatch on a buffer whose C string is
exactly `cmd`, then the rest of `loop()`. -/
theorem command_reaches_dispatch (s : St) (cmd : List Nat) (evs : List Ev) (hs : Empty (rbOf s))
    (hlen : cmd.length ≤ 30) (hc : ∀ c ∈ cmd, c ≠ 10 ∧ c ≠ 13 ∧ c ≠ 0) (hev : bytesOf evs = cmd) :
    let s1 := run s evs
    run s (evs ++ [.byte 10]) = actions (dispatchCore { s1 with idx := s1.idx + 1 }) none ∧
    cstr { s1 with idx := s1.idx + 1 } = cmd := by
  intro s1
  have hb : Holds (rbOf s1) cmd := by
    rw [show rbOf s1 = _ from rbOf_run evs s, hev]
    exact (hs.holds.feed cmd (by simp; omega) fun c h => ⟨(hc c h).1, (hc c h).2.1⟩).1
  obtain ⟨e1, e2⟩ := serialStep_newline hb hlen
  rw [run_snoc, step_byte, e1]
  have := List.takeWhile_append_of_pos (p := fun x => x != 0) (l₁ := cmd) (l₂ := [])
    fun x hx => by simpa using (hc x hx).2.2
  exact ⟨rfl, e2.trans (by simpa using this)⟩

example : ∀ c ∈ ascii "position", c ≠ 10 ∧ c ≠ 13 ∧ c ≠ 0 := by decide +kernel

/-- Every dispatch prints exactly one reply block: `<body>` `***\r\n`, the body being, per C string in the buffer,
the fixed table below (for an unknown command: `error command ` + the string; the string contains no CR/LF since
those never enter the buffer).  Together with `short_line_one_dispatch` / `line_31_one_dispatch`: one line of at most
31 characters, one block. -/
theorem dispatch_emits_one_block (s : St) :
    (cstr s = ascii "open" →
      (dispatchCore s).out = s.out ++ ascii "open\r\n***\r\n" ∧ (dispatchCore s).dir = (setDirection s .opn).dir) ∧
    (cstr s = ascii "close" →
      (dispatchCore s).out = s.out ++ ascii "close\r\n***\r\n" ∧ (dispatchCore s).dir = (setDirection s .cls).dir) ∧
    (cstr s = ascii "stop" →
      (dispatchCore s).out = s.out ++ ascii "stop\r\n***\r\n" ∧ (dispatchCore s).dir = .stop) ∧
    (cstr s = ascii "position" →
      (dispatchCore s).out = s.out ++ (ascii "position " ++ decNat (pct s) ++ ascii "\r\n***\r\n") ∧
      (dispatchCore s).dir = s.dir) ∧
    (cstr s = ascii "water" →
      (dispatchCore s).out = s.out ++ (ascii "water " ++ decNat s.water ++ ascii "\r\n***\r\n") ∧
      (dispatchCore s).dir = s.dir) ∧
    (cstr s = ascii "reset" →
      (dispatchCore s).out = s.out ++ ascii "reset\r\n***\r\n" ∧ (dispatchCore s).pos = 0) ∧
    (cstr s = ascii "debug" →
      (dispatchCore s).out = s.out ++ (ascii "debug\r\nposition=" ++ decInt s.pos ++ ascii "\r\nopen=" ++ decInt s.opn
        ++ ascii "\r\nclose=" ++ decInt s.close ++ ascii "\r\n***\r\n")) ∧
    (cstr s ∉ [ascii "open", ascii "close", ascii "stop", ascii "position", ascii "water", ascii "debug", ascii "reset"] →
      (dispatchCore s).out = s.out ++ (ascii "error command " ++ cstr s ++ ascii "\r\n***\r\n") ∧
      (dispatchCore s).dir = s.dir) := by
  refine ⟨fun h => ?_, fun h => ?_, fun h => ?_, fun h => ?_, fun h => ?_, fun h => ?_, fun h => ?_, fun h => ?_⟩
  · obtain ⟨ho, hd, _⟩ := dispatchCore_ops h [.println (ascii "open"), .setOpen] (by decide +kernel)
    simp [ho, hd, runOp, emitLn, setDirection_eq, ascii, crlf, terminator]
  · obtain ⟨ho, hd, _⟩ := dispatchCore_ops h [.println (ascii "close"), .setClose] (by decide +kernel)
    simp [ho, hd, runOp, emitLn, setDirection_eq, ascii, crlf, terminator]
  · obtain ⟨ho, hd, _⟩ := dispatchCore_ops h [.println (ascii "stop"), .setStop] (by decide +kernel)
    simp [ho, hd, runOp, emitLn, setDirection_eq, ascii, crlf, terminator]
  · obtain ⟨ho, hd, _⟩ := dispatchCore_ops h [.print (ascii "position "), .printlnPct] (by decide +kernel)
    simp [ho, hd, runOp, emit, emitLn, pct, pctLong, ascii, crlf, terminator]
  · obtain ⟨ho, hd, _⟩ := dispatchCore_ops h [.print (ascii "water "), .printlnWater] (by decide +kernel)
    simp [ho, hd, runOp, emit, emitLn, ascii, crlf, terminator]
  · obtain ⟨ho, _, hp⟩ := dispatchCore_ops h [.println (ascii "reset"), .reset] (by decide +kernel)
    simp [ho, hp, runOp, emitLn, ascii, crlf, terminator]
  · obtain ⟨ho, _, _⟩ := dispatchCore_ops h [.println (ascii "debug"), .debug] (by decide +kernel)
    simp [ho, runOp, debugPrint, debugFields, fieldVal, emit, emitLn, ascii, crlf, terminator]
  · obtain ⟨ho, hd, _⟩ := dispatchCore_ops (s := s) rfl _ (findCmd_not_mem _ _ (by
      rwa [show commands.map Prod.fst = [ascii "open", ascii "close", ascii "stop", ascii "position", ascii "water",
        ascii "debug", ascii "reset"] by decide +kernel]))
    simp [ho, hd, errorOps, runOp, emit, emitLn, cstr, ascii, crlf, terminator]

example : (dispatchCore { init 30 0 100 with buf := ascii "position" ++ List.replicate 24 0 }).out
    = ascii "position 30\r\n***\r\n" := by decide +kernel

/-! ## (c) Percentage -/

/-- `get_position_percentage()` is within 0..100 for EVERY position and end points (open = close, open < close,
values for which the 32-bit arithmetic wraps). -/
theorem percentage_in_range (s : St) : 0 ≤ pctLong s ∧ pctLong s ≤ 100 ∧ pct s ≤ 100 ∧ (pct s : Int) = pctLong s := by
  have h : 0 ≤ pctLong s ∧ pctLong s ≤ 100 := by
    unfold pctLong pctLo pctHi
    dsimp only
    split
    · omega
    · split
      · omega
      · split <;> omega
  unfold pct
  omega

example : pct (init 130 0 100) = 100 ∧ pct (init (-7) 0 100) = 0 ∧ pct (init 5 3 3) = 0 ∧ pct (init 30 100 0) = 70 := by
  decide +kernel

/-- When nothing overflows the value is the mathematical one: truncating division of `100 * (position - close)` by
`open - close`, clamped to 0..100 (also for `open < close`, where both are negative).  The product overflows 32 bits
iff `|position - close| > 21474836`, far beyond any cover travel (a few thousand pulses). -/
theorem percentage_exact_without_overflow (s : St)
    (hd : -2147483648 ≤ s.opn - s.close ∧ s.opn - s.close < 2147483648)
    (hm : -21474836 ≤ s.pos - s.close ∧ s.pos - s.close ≤ 21474836) :
    pctLong s =
      if s.opn - s.close = 0 then 0
      else
        let q := Int.tdiv (100 * (s.pos - s.close)) (s.opn - s.close)
        if q < 0 then 0 else if q > 100 then 100 else q := by
  unfold pctLong pctMul pctLo pctHi
  dsimp only
  generalize s.opn - s.close = d at hd ⊢
  generalize s.pos - s.close = m at hm ⊢
  have hb := Int.natAbs_tdiv_le_natAbs (100 * m) d
  rw [wrap32_id hd.1 hd.2, wrap32_id (x := m) (by omega) (by omega), wrap32_id (x := 100 * m) (by omega) (by omega),
    wrap32_id (x := (100 * m).tdiv d) (by omega) (by omega)]

example : pctLong (init 2500 0 5000) = 50 ∧ pctLong (init 2500 5000 0) = 50 ∧ pctLong (init 1 0 3) = 33 := by decide +kernel

/-- With wrap-around the reported value is still within 0..100 (`percentage_in_range`) but wrong: at
`position - close = 21474837` the product wraps negative and the firmware reports 0 instead of 50. -/
theorem percentage_wraps_counterexample :
    pct (init 21474837 0 42949674) = 0 ∧ Int.tdiv (100 * (21474837 - 0)) (42949674 - 0) = 50 := by
  decide +kernel

/-! ## (b) Motor -/

/-- For EVERY event sequence – encoder interrupts inside the `delay(100)` of `process_direction` included – right
after `process_direction` both motor pins are LOW iff the direction it read on entry is STOP.  Inside the delay the ISR
can only leave the direction alone or set it to STOP; hence, when no interrupt fires inside the delay, "the direction
it read" is the direction afterwards (second part), and otherwise the only possible difference is "direction STOP,
pin still HIGH", which `stop_reaches_pins_at_next_iteration` bounds by one loop period. -/
theorem pins_low_iff_stop (p c o : Int) (evs : List Ev) (now : Nat) :
    let s := run (init p c o) evs
    let s' := processDirection s now
    (((s'.pinOpen = false ∧ s'.pinClose = false) ↔ s.dir = .stop) ∧ s'.prevDir = s.dir) ∧
    (s'.dir = s.dir ∨ s'.dir = .stop) ∧
    (s.dpulses = 0 → ((s'.pinOpen = false ∧ s'.pinClose = false) ↔ s'.dir = .stop)) := by
  intro s s'
  obtain ⟨hm, hpd⟩ := processDirection_motor now (run_motor evs (motor_init p c o))
  obtain ⟨hd, hd0⟩ := processDirection_dir s now
  have hl := hpd ▸ hm.low_iff
  exact ⟨⟨hl, hpd⟩, hd, fun h0 => hd0 h0 ▸ hl⟩

example : (processDirection (run (init 5 0 100) [.byte 111, .byte 112, .byte 101, .byte 110, .byte 10, .tick 20, .pulse]) 120).pinClose = true := by
  decide +kernel

/-- A STOP – raised by the ISR inside the relay delay or in any other way – reaches the pins at the NEXT
`process_direction`: from every reachable state whose direction is STOP, the next loop iteration (no serial byte, no
button) ends with direction STOP and both pins LOW.  (Between the two iterations encoder interrupts keep the direction
at STOP: `coverIsr_dir`.) -/
theorem stop_reaches_pins_at_next_iteration (p c o : Int) (evs : List Ev) (ms : Nat) :
    let s := run (init p c o) evs
    s.dir = .stop →
    let t := step s (.tick ms)
    t.dir = .stop ∧ t.pinOpen = false ∧ t.pinClose = false :=
  fun hs => actions_stop { run (init p c o) evs with clk := _ } (run_motor evs (motor_init p c o)) hs

set_option maxRecDepth 100000 in
example : (run (init 97 0 100) (raceWitness.take 6)).dir = .stop ∧ (run (init 97 0 100) (raceWitness.take 6)).pinClose = true := by
  decide +kernel

/-- Regression witness of the defect fixed in the sketch ("does not lose a stop raised during the relay delay"):
EEPROM (97, 0, 100), `open`, 4 encoder pulses inside the relay delay.  Right after that `process_direction` the
direction is STOP (end point reached inside the delay), the pin is still HIGH and the previous direction is OPEN; the
next loop iteration lowers the pins; at the end of the witness the motor is off and the position saved.  (The model
of a sketch that reads `m_direction` again – `prevDirRereadsVolatile = true` – keeps the pin HIGH for ever.) -/
theorem isr_stop_in_delay_regression :
    let s0 := run (init 97 0 100) (raceWitness.take 5)
    let s1 := processDirection (serialStep s0 10) s0.clk
    (s1.dir = .stop ∧ s1.pinClose = true ∧ s1.prevDir = .opn ∧ s1.pos = 101) ∧
    let s2 := run (init 97 0 100) (raceWitness.take 7)
    (s2.dir = .stop ∧ s2.pinClose = false ∧ s2.pinOpen = false ∧ s2.prevDir = .stop ∧ s2.doStop = 120) ∧
    let t := run (init 97 0 100) raceWitness
    (t.dir = .stop ∧ t.pinClose = false ∧ t.run = .stop ∧ t.pos = 103 ∧ t.eePos = 103 ∧ t.nEmergency = 0) := by
  decide +kernel

/-- An encoder interrupt (not debounced away, limits not being set) whose step brings the position to or beyond an
end point sets the direction to STOP. -/
theorem isr_step_at_end_point_stops (s : St) (hl : s.lim = .none) (hdeb : s.clk - s.isrLast > 10)
    (hp : -2147483648 < s.pos ∧ s.pos < 2147483647)
    (ho : -2147483648 ≤ s.opn ∧ s.opn < 2147483648) (hc : -2147483648 ≤ s.close ∧ s.close < 2147483648) :
    (s.run = .opn → s.pos + 1 ≥ s.opn → (coverIsr s).dir = .stop ∧ (coverIsr s).pos = s.pos + 1) ∧
    (s.run = .cls → s.pos - 1 ≤ s.close → (coverIsr s).dir = .stop ∧ (coverIsr s).pos = s.pos - 1) := by
  have w1 : wrap32 (s.pos + 1) = s.pos + 1 := wrap32_id (by omega) (by omega)
  have w2 : wrap32 (s.pos - 1) = s.pos - 1 := wrap32_id (by omega) (by omega)
  have hdeb' : s.clk - s.isrLast > coverDebounceMs := hdeb
  constructor
  · intro hr hge
    simp [coverIsr, stepCover, atOpenEnd, hdeb', hr, hl, stepOpenStrict, stepOpenOffset, w1, wrap32_id ho.1 ho.2, hge]
  · intro hr hle
    simp [coverIsr, stepCover, atCloseEnd, hdeb', hr, hl, stepCloseStrict, stepCloseOffset, w2, wrap32_id hc.1 hc.2, hle]

example : (coverIsr { init 99 0 100 with run := .opn, dir := .opn, clk := 500 }).dir = .stop := by decide +kernel

/-- After `ensure_consistency` (limits not being set) a direction other than STOP implies that the tracked position is
inside the envelope `close - 150 .. open + 150`. -/
theorem envelope_after_ensure_consistency (s : St) (now : Nat)
    (hc : -2147483648 + 150 ≤ s.close) (ho : s.opn < 2147483648 - 150)
    (hc' : s.close < 2147483648) (ho' : -2147483648 ≤ s.opn) :
    let s' := ensureConsistency s now
    s'.lim = .none → s'.dir ≠ .stop → s'.close - 150 ≤ s'.pos ∧ s'.pos ≤ s'.opn + 150 := by
  dsimp only
  intro hl hd
  obtain ⟨e, h⟩ := ensureConsistency_inside hl hd
  have hg : (stallCheck s now).close = s.close ∧ (stallCheck s now).opn = s.opn := by
    unfold stallCheck; (repeat' split) <;> exact ⟨rfl, rfl⟩
  unfold outsideEnvelope at h
  rw [e]
  rw [hg.1, hg.2] at h ⊢
  rw [maxPulseMargin, wrap32_id (by omega) (by omega), wrap32_id (by omega) (by omega)] at h
  simp only [Bool.or_eq_false_iff, decide_eq_false_iff_not] at h
  omega

example : (ensureConsistency { init 300 0 100 with dir := .opn, prevDir := .opn } 5).dir = .stop ∧
    (ensureConsistency { init 120 0 100 with dir := .cls, prevDir := .cls } 5).dir = .cls := by decide +kernel

/-- Stall, one step: when `ensure_consistency` runs with a direction other than STOP, more than 500 ms after the
window started, and the position moved by fewer than 10 pulses, the direction becomes STOP and the block
`emergency stop\r\n***\r\n` is printed. -/
theorem stall_check_emergency_stop (s : St) (now : Nat) (hd : s.dir ≠ .stop) (ht : now - s.prevTime > 500)
    (hp : absC (wrap32 (s.pos - s.prevPos)) < 10) :
    let s' := ensureConsistency s now
    s'.dir = .stop ∧ s'.nEmergency ≥ s.nEmergency + 1 ∧
    ∃ rest, s'.out = s.out ++ ascii "emergency stop\r\n***\r\n" ++ rest := by
  rw [show ascii "emergency stop\r\n***\r\n" = (emergencyText ++ crlf) ++ (emergencyTerminator ++ crlf) by decide +kernel]
  exact ensureConsistency_stall s now hd ht hp

example : (ensureConsistency { init 50 0 100 with dir := .opn, prevDir := .opn, prevPos := 45, prevTime := 100 } 700).out
    = ascii "emergency stop\r\n***\r\n" := by decide +kernel

/-- Stall, timed: the motor has been switched to direction `d ≠ STOP` (`m_previous_direction = m_direction`), the
stall window started at `m_previous_time`; then ANY sequence of loop iterations, lapses of time, encoder and water
interrupts (no serial command, no button) with fewer than 10 encoder pulses since the window start, followed by a
loop iteration later than 500 ms after the window start, ends with direction STOP.  (Detection latency: 500 ms +
one loop period; the pins go LOW in the next iteration, `stop_reaches_pins_at_next_iteration`.) -/
theorem stall_window_timed (s : St) (evs : List Ev) (ms : Nat)
    (hq : ∀ e ∈ evs, quiet e = true) (hd : s.dir ≠ .stop) (hpd : s.prevDir = s.dir)
    (hp0 : -1073741824 ≤ s.prevPos ∧ s.prevPos ≤ 1073741824)
    (hn : ∃ n : Int, 0 ≤ n ∧ s.prevPos - n ≤ s.pos ∧ s.pos ≤ s.prevPos + n ∧ n + pulseCount evs < 10)
    (ht : (run s evs).clk + ms - s.prevTime > 500) :
    (run s (evs ++ [.tick ms])).dir = .stop := by
  obtain ⟨n, _, n1, n2, n3⟩ := hn
  have hr := win_run hd hp0 n3 evs s n (.inr ⟨rfl, hpd, rfl, rfl, n1, n2⟩) hq (Int.le_refl _)
  rw [run_snoc, step_tick]
  exact (win_actions { run s evs with clk := (run s evs).clk + ms } hr hd n3).2 ht

example : (run { init 50 0 1000 with dir := .opn, prevDir := .opn, run := .opn, prevPos := 50, pinClose := true }
    ([.tick 100, .pulse, .tick 100, .pulse, .adv 150, .pulse, .tick 100] ++ [.tick 60])).dir = .stop := by decide +kernel

/-- The `stop` command sets STOP: after ANY events whose serial bytes are `stop`, from an in-step firmware, the loop
iteration that reads the `\n` ends with direction STOP. -/
theorem stop_command_sets_stop (s : St) (evs : List Ev) (hs : Empty (rbOf s)) (hev : bytesOf evs = ascii "stop") :
    (run s (evs ++ [.byte 10])).dir = .stop := by
  obtain ⟨e1, e2⟩ := command_reaches_dispatch s (ascii "stop") evs hs (by decide +kernel) (by decide +kernel) hev
  obtain ⟨_, _, hstop, _⟩ := dispatch_emits_one_block _
  rw [e1]
  exact actions_none_dir_stop _ (hstop e2).2

example : bytesOf [.byte 115, .pulse, .byte 116, .byte 111, .tick 7, .byte 112] = ascii "stop" := by decide +kernel

/-- ... and the motor pins are LOW at the end of that very iteration, for EVERY history (interrupts inside earlier
relay delays included). -/
theorem stop_command_lowers_pins (p c o : Int) (pre evs : List Ev)
    (hs : Empty (rbOf (run (init p c o) pre))) (hev : bytesOf evs = ascii "stop") :
    let t := run (init p c o) (pre ++ evs ++ [.byte 10])
    t.dir = .stop ∧ t.pinOpen = false ∧ t.pinClose = false := by
  obtain ⟨e1, e2⟩ := command_reaches_dispatch _ (ascii "stop") evs hs (by decide +kernel) (by decide +kernel) hev
  have hm : Motor (run (init p c o) (pre ++ evs)) := run_motor _ (motor_init p c o)
  rw [run_append] at hm
  show (run (init p c o) (pre ++ evs ++ [.byte 10])).dir = _ ∧ _
  obtain ⟨_, _, hstop, _⟩ := dispatch_emits_one_block _
  rw [List.append_assoc, run_append, e1]
  exact actions_stop _ (hm.of_mp (mp_dispatchCore _)) (hstop e2).2

set_option maxRecDepth 100000 in
example : Empty (rbOf (run (init 97 0 100) (raceWitness.take 9))) ∧
    bytesOf [Ev.byte 115, .byte 116, .byte 111, .byte 112] = ascii "stop" := by
  unfold Firmware.Empty
  decide +kernel

/-! ## (d) The Python driver accepts the replies to the commands it sends

`pyParse cmd text` models the receive part of `ArduinoDevice.__send(cmd)` (controller/device.py) on the text the
`TextIOWrapper` delivers (`pyNewlines` = universal newlines); `pyValue` models
`int(value.replace(cmd + " ", "")) if value else None`.  The reply block is the one `dispatch_emits_one_block` gives
for the command (`command_reaches_dispatch`: sending `cmd\n` reaches that dispatch). -/

/-- `position`: the reply `position <n>\r\n***\r\n` is accepted, the driver's `cover_position` is the firmware's
percentage, and it is within 0..100. -/
theorem driver_accepts_position_reply (s : St) (hc : cstr s = ascii "position") :
    let reply := (dispatchCore { s with out := [] }).out
    pyParse (ascii "position") (pyNewlines reply) = (some (ascii "position " ++ decNat (pct s)), []) ∧
    pyValue (ascii "position") (some (ascii "position " ++ decNat (pct s))) = some (pct s : Int) ∧
    pct s ≤ 100 := by
  obtain ⟨_, _, _, hposition, _⟩ := dispatch_emits_one_block { s with out := [] }
  obtain ⟨h1, h2⟩ := driver_accepts_numeric (name := ascii "position") (P := ascii "position ") (pct s)
    (by decide +kernel) (by decide +kernel) (by decide +kernel) (by decide +kernel)
  exact ⟨by rw [(hposition hc).1]; exact h1, h2, (percentage_in_range s).2.2.1⟩

example : cstr { init 30 0 100 with buf := ascii "position" ++ List.replicate 24 0 } = ascii "position" := by decide +kernel

/-- `water`: the reply `water <n>\r\n***\r\n` is accepted and the driver's `water_counter` is the firmware's
counter, for every value of the counter. -/
theorem driver_accepts_water_reply (s : St) (hc : cstr s = ascii "water") :
    let reply := (dispatchCore { s with out := [] }).out
    pyParse (ascii "water") (pyNewlines reply) = (some (ascii "water " ++ decNat s.water), []) ∧
    pyValue (ascii "water") (some (ascii "water " ++ decNat s.water)) = some (s.water : Int) := by
  obtain ⟨_, _, _, _, hwater, _⟩ := dispatch_emits_one_block { s with out := [] }
  obtain ⟨h1, h2⟩ := driver_accepts_numeric (name := ascii "water") (P := ascii "water ") s.water
    (by decide +kernel) (by decide +kernel) (by decide +kernel) (by decide +kernel)
  exact ⟨by rw [(hwater hc).1]; exact h1, h2⟩

example : cstr { init 30 0 100 with buf := ascii "water" ++ List.replicate 27 0, water := 4294967295 } = ascii "water" := by
  decide +kernel

/-- `open`, `close`, `stop`: the replies `<cmd>\r\n***\r\n` are accepted. -/
theorem driver_accepts_motion_replies (s : St) :
    (cstr s = ascii "open" →
      pyParse (ascii "open") (pyNewlines (dispatchCore { s with out := [] }).out) = (some (ascii "open"), [])) ∧
    (cstr s = ascii "close" →
      pyParse (ascii "close") (pyNewlines (dispatchCore { s with out := [] }).out) = (some (ascii "close"), [])) ∧
    (cstr s = ascii "stop" →
      pyParse (ascii "stop") (pyNewlines (dispatchCore { s with out := [] }).out) = (some (ascii "stop"), [])) := by
  obtain ⟨hopen, hclose, hstop, _⟩ := dispatch_emits_one_block { s with out := [] }
  have e : ({ s with out := [] } : St).out = [] := rfl
  refine ⟨fun hc => ?_, fun hc => ?_, fun hc => ?_⟩
  · rw [(hopen hc).1, e, List.nil_append]
    decide +kernel
  · rw [(hclose hc).1, e, List.nil_append]
    decide +kernel
  · rw [(hstop hc).1, e, List.nil_append]
    decide +kernel

example : pyParse (ascii "stop") (pyNewlines (ascii "emergency stop\r\n***\r\nstop\r\n***\r\n")) = (none, ascii "stop\n***\n") := by
  decide +kernel

end Poupool.C19
