import Poupool.Proofs.ComposeDiscipline
import Poupool.Proofs.ComposeRun
import Poupool.Properties.C01
/-!
# Composition of GENERATED master and GENERATED slave models

`Model/Glue.lean` proves "master knows X halted ∧ X's inbox served ⇒ X halted" for a pair whose *master* is
hand-written (mHalt / mObserve / mTell / mMove on a ghost bit); that those operations are what the generated
master programs do is not proved there.  Here the master is the generated
description itself (`Model/Compose.lean`): its handlers are run by `stepE` (= `step` + the effects performed,
`Compose.stepE_proj`), their tell tags / answered questions are replayed against the slave's FIFO inbox while the
slave runs ITS generated `step`.

* `*_discipline` – the decidable checker `ghostDiscipline` (Proofs/ComposeDiscipline.lean) accepts the generated
  master: on every path of every callback / method program the ghost variable gets a "known halted" value only
  right after a halt-class tell tag or by the refinement of an observed answer (`is_halt()` TRUE, `is_heating()`
  FALSE), gets another value after every tell of a start message to X, `havoc` only forgets, and forgets in every
  allowed phase.  Kernel-evaluated on the generated programs; `filtDis`, `filtSwim` and `filtHeatSched` come with
  mutants it rejects.
* `Compose.masterOK_of_discipline` (soundness of the checker w.r.t. `execE`, induction over `Stmt`) and
  `Compose.halted_when_served` (induction over composed steps) then give, for EVERY interleaving of the composed
  system: master between two handlers ∧ ghost variable says halted ∧ none of its messages waits ⇒ X halted.
  `Compose.will_be_halted` is the un-settled form: whatever is in X's inbox now, once served X is halted.
* `*_composed_*` – with the master certificate (`C01.filtration_halt` …): master in phase `halt` (or any phase of
  the relevant list) ∧ X's inbox served ⇒ X in its halt phase.
* the tell tags are not typed in by hand: `tells_*` recompute them from the generated name table, check that every
  `tell:X.*` name is a message of X's alphabet, and recompute the allowed phases from the generated `havoc`.
* H1/H2 on the slaves are the ones of C01 (`decide +kernel` over the slave certificates).

Still assumed (as in Glue.lean): a handler of the master is atomic w.r.t. other messages to the MASTER (the slave
does run during it); the slave's guard question to the master is answered between two master handlers and is atomic
with the slave's transition; a start message that does not come from the master is always guarded that way (for
Disinfection / PWM / Heating-`force` this means: nobody else sends it); the translator emits the tag for every tell.
-/
namespace Poupool.ComposeProps
open Poupool.Gen Poupool.Compose

/-- every emitted tag `tell:<slave>.<m>` of the generated name table with `m` a message of the slave -/
def tellsOf (slave : String) (msgs : List String) : List (Nat × Msg) :=
  let pre := "tell:" ++ slave ++ "."
  (names.zipIdx).filterMap fun (nm, i) =>
    if pre.isPrefixOf nm then
      match msgs.idxOf? (nm.drop pre.length).toString with
      | some k => some (i, Msg.plain k)
      | none => none
    else none

/-- every name `tell:<slave>.<m>` of the table names a message of the slave (nothing is dropped by `tellsOf`) -/
def tellsResolved (slave : String) (msgs : List String) : Bool :=
  let pre := "tell:" ++ slave ++ "."
  names.all fun nm => !pre.isPrefixOf nm || (msgs.idxOf? (nm.drop pre.length).toString).isSome

/-- the leaves in which `havoc` forgets variable `v` -/
def havocLeaves (D : ActorDesc) (v : VarId) : List LeafId :=
  (D.havoc.filter (·.1 == v)).flatMap (·.2.1)

/-- all tell messages are in the slave's alphabet (no message of the master can block the slave's inbox) -/
def tellsInAlphabet (S : CSpec) : Bool := S.tells.all fun (_, m) => (allMsgs S.DX).contains m

def served (g : CSt) : Bool := g.inbox.all fun e => !e.1

theorem noMaster_of_served {g : CSt} (h : served g = true) : noMaster g.inbox := noMaster_of_all h

/-! ## Filtration ∥ Disinfection -/

def filtDis : CSpec :=
  { DM := filtrationSafetyDesc
    DX := C01.disinfectionSpec.D
    v := Filtration.v_rq_Disinfection
    isG := fun x => x == N.halt_
    tells := [(6, .plain Disinfection.m_halt), (10, .plain Disinfection.m_run)]
    isHaltMsg := C01.disinfectionSpec.isHaltMsg
    isHalt := C01.disinfectionSpec.isHalt
    isStart := C01.disinfectionSpec.isStart
    allowed := havocLeaves filtrationSafetyDesc Filtration.v_rq_Disinfection }

/-- the tag table is the one of the generated names; nothing forgets this variable (Disinfection is only ever
    started by Filtration), so a foreign `run` is always refused -/
theorem tells_filtDis : filtDis.tells = tellsOf "Disinfection" disinfectionMsgs ∧ tellsResolved "Disinfection" disinfectionMsgs = true ∧ tellsInAlphabet filtDis = true ∧
    filtDis.allowed = [] := by decide +kernel

theorem filtDis_discipline : ghostDiscipline filtDis = true := by decide +kernel

/-- the checker is not vacuous: it rejects a master that tells `run` without updating its knowledge, one that
    claims `halt` without telling it, and one that records `halt` after telling `run` -/
example :
    ghostDiscipline { filtDis with DM := { filtrationSafetyDesc with callbacks := [.emit 10] } } = false ∧
    ghostDiscipline { filtDis with DM := { filtrationSafetyDesc with callbacks := [.set 3 (.const 0)] } } = false ∧
    ghostDiscipline { filtDis with DM := { filtrationSafetyDesc with
      callbacks := [.seq (.emit 10) (.set 3 (.const 0))] } } = false ∧
    ghostDiscipline { filtDis with DM := { filtrationSafetyDesc with
      callbacks := [.seq (.emit 6) (.set 3 (.const 0)), .ite (.ask [(3, 0)] []) (.seq (.emit 10) (.set 3 (.const 11))) .skip] } }
      = true := by decide +kernel

/-- **Filtration ∥ Disinfection, every interleaving**: Filtration between two handlers, its knowledge variable
    says `halt`, none of its messages waits in Disinfection's inbox ⇒ Disinfection is in `halt`. -/
theorem filtDis_halted_when_served {g : CSt} (h : CReach filtDis g) (hidle : g.todo = [])
    (hg : g.m.v Filtration.v_rq_Disinfection = N.halt_) (hs : noMaster g.inbox) :
    g.x.leaf = Disinfection.leaf_halt :=
  beq_iff_eq.1 (halted_of_checks filtDis filtDis_discipline C01.disinfection_slave_ok h hidle (beq_iff_eq.2 hg) hs)

/-- non-vacuity (trivial instance; a run in which Disinfection is started and halted follows `filtDis_demo`) -/
example : CReach filtDis (cinit filtDis) ∧ (cinit filtDis).todo = [] ∧
    (cinit filtDis).m.v Filtration.v_rq_Disinfection = N.halt_ ∧ noMaster (cinit filtDis).inbox :=
  ⟨CReach.init, rfl, by decide, nofun⟩

/-- the phases in which the dosing must be off (C02's no-treatment list) -/
def noTreatment (l : Nat) : Bool :=
  [Filtration.leaf_halt, Filtration.leaf_closing, Filtration.leaf_opening_standby, Filtration.leaf_opening_overflow,
   Filtration.leaf_eco_waiting, Filtration.leaf_eco_tank, Filtration.leaf_standby_boost, Filtration.leaf_overflow_boost,
   Filtration.leaf_sweep, Filtration.leaf_wash_backwash, Filtration.leaf_wash_rinse, Filtration.leaf_wintering_stir,
   Filtration.leaf_wintering_waiting].contains l

theorem filtration_no_treatment : ∀ s, Reach filtrationSafetyDesc s →
    (!noTreatment s.leaf || s.v Filtration.v_rq_Disinfection == N.halt_) = true :=
  invariant_of_closed _ _ _ Cert.filtrationSafety_closed (by decide +kernel)

/-- Filtration in ANY no-treatment phase, Disinfection's inbox served ⇒ Disinfection in `halt` -/
theorem filtDis_composed_no_treatment {g : CSt} (h : CReach filtDis g) (hidle : g.todo = [])
    (hm : noTreatment g.m.leaf = true) (hs : noMaster g.inbox) : g.x.leaf = Disinfection.leaf_halt := by
  have hinv := filtration_no_treatment g.m (creach_m filtDis h)
  simp only [hm, Bool.not_true, Bool.false_or, beq_iff_eq] at hinv
  exact filtDis_halted_when_served h hidle hinv hs

/-- with the master certificate: Filtration in phase `halt`, Disinfection's inbox served ⇒ Disinfection in `halt` -/
theorem filtDis_composed_halt {g : CSt} (h : CReach filtDis g) (hidle : g.todo = [])
    (hm : g.m.leaf = Filtration.leaf_halt) (hs : noMaster g.inbox) : g.x.leaf = Disinfection.leaf_halt :=
  filtDis_composed_no_treatment h hidle (by rw [hm]; decide) hs

example : CReach filtDis (cinit filtDis) ∧ (cinit filtDis).todo = [] ∧
    (cinit filtDis).m.leaf = Filtration.leaf_halt ∧ noMaster (cinit filtDis).inbox :=
  ⟨CReach.init, rfl, rfl, nofun⟩

/-- A composed run: `eco` → `eco_compute`, its timer → `eco_normal` where Filtration asks `is_halt` (TRUE) and tells
    `run`; Disinfection serves it (→ `waiting`); then `halt`: Filtration's question is answered FALSE, it tells
    `halt`; Disinfection serves it. -/
def filtDisStart : List Act :=
  [.master (.plain Filtration.m_eco) (fun o => o.1.armed == some Filtration.m_eco_normal), .drain,
   .master (.delayed Filtration.m_eco_normal) (fun o => o.2.contains (.emit 10)), .drain,
   .deliver (fun s => s.leaf == Disinfection.leaf_waiting)]

def filtDisStop : List Act :=
  [.master (.plain Filtration.m_halt) (fun o => o.2.contains (.emit 6) && !o.2.contains (.ask true [(3, 0)] [])),
   .drain, .serve (fun s => s.leaf == Disinfection.leaf_halt)]

theorem filtDis_demo :
    ((run filtDis filtDisStart (cinit filtDis)).bind fun g1 =>
      (run filtDis filtDisStop g1).map fun g2 =>
        g1.m.leaf == Filtration.leaf_eco_normal && g1.x.leaf == Disinfection.leaf_waiting &&
        g2.todo.isEmpty && g2.m.leaf == Filtration.leaf_halt && served g2 &&
        g2.x.leaf == Disinfection.leaf_halt) = some true := by decide +kernel

/-- non-vacuity of `filtDis_composed_halt` (and of the two theorems before it): the hypotheses hold in a state
    reached by a run in which Disinfection was started by Filtration and then halted -/
example : ∃ g1 g2, CReach filtDis g1 ∧ g1.x.leaf = Disinfection.leaf_waiting ∧
    run filtDis filtDisStop g1 = some g2 ∧ CReach filtDis g2 ∧ g2.todo = [] ∧
    g2.m.leaf = Filtration.leaf_halt ∧ noMaster g2.inbox := by
  obtain ⟨g1, g2, r1, h2, r2, h⟩ := run_demo filtDis_demo
  simp only [Bool.and_eq_true, beq_iff_eq, List.isEmpty_iff] at h
  obtain ⟨⟨⟨⟨⟨_, hx⟩, htodo⟩, hm⟩, hs⟩, _⟩ := h
  exact ⟨g1, g2, r1, hx, h2, r2, htodo, hm, noMaster_of_served hs⟩

/-! ## Filtration ∥ Swim  (Swim may start on a third party's request while Filtration is in an allowed phase) -/

def filtSwim : CSpec :=
  { DM := filtrationSafetyDesc
    DX := C01.swimSpec.D
    v := Filtration.v_rq_Swim
    isG := fun x => x == N.halt_
    tells := [(7, .plain Swim.m_halt), (35, .plain Swim.m_wintering)]
    isHaltMsg := C01.swimSpec.isHaltMsg
    isHalt := C01.swimSpec.isHalt
    isStart := C01.swimSpec.isStart
    allowed := havocLeaves filtrationSafetyDesc Filtration.v_rq_Swim }

/-- the allowed phases are the ones the translator reads from the source of Swim's guard `filtration_allow_swim` -/
theorem tells_filtSwim : filtSwim.tells = tellsOf "Swim" swimMsgs ∧ tellsResolved "Swim" swimMsgs = true ∧ tellsInAlphabet filtSwim = true ∧
    filtSwim.allowed = [Filtration.leaf_standby_normal, Filtration.leaf_overflow_normal, Filtration.leaf_comfort,
      Filtration.leaf_wintering_stir, Filtration.leaf_wintering_waiting] := by decide +kernel

theorem filtSwim_discipline : ghostDiscipline filtSwim = true := by decide +kernel

/-- not vacuous: without the `havoc` entry (Filtration would keep believing "halted" in the phases in which the
    dispatcher may start Swim) the checker fails -/
example : ghostDiscipline { filtSwim with DM := { filtrationSafetyDesc with havoc := [] } } = false := by
  decide +kernel

/-- **Filtration ∥ Swim, every interleaving** (third parties may queue `timed` / `continuous` / `wintering` at any
    time; they are effective only while Filtration is in an allowed phase) -/
theorem filtSwim_halted_when_served {g : CSt} (h : CReach filtSwim g) (hidle : g.todo = [])
    (hg : g.m.v Filtration.v_rq_Swim = N.halt_) (hs : noMaster g.inbox) : g.x.leaf = Swim.leaf_halt :=
  beq_iff_eq.1 (halted_of_checks filtSwim filtSwim_discipline C01.swim_slave_ok h hidle (beq_iff_eq.2 hg) hs)

example : CReach filtSwim (cinit filtSwim) ∧ (cinit filtSwim).todo = [] ∧
    (cinit filtSwim).m.v Filtration.v_rq_Swim = N.halt_ ∧ noMaster (cinit filtSwim).inbox :=
  ⟨CReach.init, rfl, by decide, nofun⟩

/-- the phases in which the counter-current pump must never run (C13's list) -/
def neverList (l : Nat) : Bool :=
  [Filtration.leaf_halt, Filtration.leaf_eco_compute, Filtration.leaf_eco_normal, Filtration.leaf_eco_tank,
   Filtration.leaf_eco_waiting, Filtration.leaf_heating_running, Filtration.leaf_heating_delay_none,
   Filtration.leaf_heating_delay_standby, Filtration.leaf_heating_delay_overflow, Filtration.leaf_wash_backwash,
   Filtration.leaf_wash_rinse, Filtration.leaf_opening_standby, Filtration.leaf_opening_overflow,
   Filtration.leaf_closing].contains l

theorem filtration_never_list : ∀ s, Reach filtrationSafetyDesc s →
    (!neverList s.leaf || s.v Filtration.v_rq_Swim == N.halt_) = true :=
  invariant_of_closed _ _ _ Cert.filtrationSafety_closed (by decide +kernel)

theorem filtSwim_composed_never_list {g : CSt} (h : CReach filtSwim g) (hidle : g.todo = [])
    (hm : neverList g.m.leaf = true) (hs : noMaster g.inbox) : g.x.leaf = Swim.leaf_halt := by
  have hinv := filtration_never_list g.m (creach_m filtSwim h)
  simp only [hm, Bool.not_true, Bool.false_or, beq_iff_eq] at hinv
  exact filtSwim_halted_when_served h hidle hinv hs

theorem filtSwim_composed_halt {g : CSt} (h : CReach filtSwim g) (hidle : g.todo = [])
    (hm : g.m.leaf = Filtration.leaf_halt) (hs : noMaster g.inbox) : g.x.leaf = Swim.leaf_halt :=
  filtSwim_composed_never_list h hidle (by rw [hm]; decide) hs

example : CReach filtSwim (cinit filtSwim) ∧ (cinit filtSwim).todo = [] ∧
    (cinit filtSwim).m.leaf = Filtration.leaf_halt ∧ noMaster (cinit filtSwim).inbox :=
  ⟨CReach.init, rfl, rfl, nofun⟩

/-- A composed run: a `timed` request while Filtration is halted is refused; `wintering`: Filtration tells Swim
    `wintering`, Swim serves it and leaves `halt` (Filtration is in an allowed phase); then `halt`: Filtration tells
    `halt`, Swim serves everything. -/
def filtSwimStart : List Act :=
  [.other (.plain Swim.m_timed), .deliver (fun _ => true),
   .master (.plain Filtration.m_wintering) (fun o => o.2.contains (.emit 35)), .drain,
   .deliver (fun s => s.leaf != Swim.leaf_halt)]

def filtSwimStop : List Act :=
  [.master (.plain Filtration.m_halt) (fun o => o.2.contains (.emit 7) && !o.2.contains (.ask true [(4, 0)] [])),
   .drain, .serve (fun s => s.leaf == Swim.leaf_halt)]

theorem filtSwim_demo :
    ((run filtSwim (filtSwimStart.take 2) (cinit filtSwim)).bind fun g0 =>
     (run filtSwim (filtSwimStart.drop 2) g0).bind fun g1 =>
      (run filtSwim filtSwimStop g1).map fun g2 =>
        g0.x.leaf == Swim.leaf_halt && g0.inbox.isEmpty &&
        filtSwim.allowed.contains g1.m.leaf && g1.x.leaf != Swim.leaf_halt &&
        g2.todo.isEmpty && g2.m.leaf == Filtration.leaf_halt && served g2 &&
        g2.x.leaf == Swim.leaf_halt) = some true := by decide +kernel

example : ∃ g1 g2, CReach filtSwim g1 ∧ g1.x.leaf ≠ Swim.leaf_halt ∧
    run filtSwim filtSwimStop g1 = some g2 ∧ CReach filtSwim g2 ∧ g2.todo = [] ∧
    g2.m.leaf = Filtration.leaf_halt ∧ noMaster g2.inbox := by
  obtain ⟨g0, h0, h⟩ := Option.bind_eq_some_iff.1 filtSwim_demo
  obtain ⟨g1, h1, h⟩ := Option.bind_eq_some_iff.1 h
  obtain ⟨g2, h2, h⟩ := Option.map_eq_some_iff.1 h
  simp only [Bool.and_eq_true, beq_iff_eq, bne_iff_ne, ne_eq, List.isEmpty_iff] at h
  obtain ⟨⟨⟨⟨⟨⟨⟨_, _⟩, _⟩, hx⟩, htodo⟩, hm⟩, hs⟩, _⟩ := h
  have r1 := run_sound filtSwim _ _ _ (run_sound filtSwim _ _ _ CReach.init h0) h1
  exact ⟨g1, g2, r1, hx, h2, run_sound filtSwim _ _ _ r1 h2, htodo, hm, noMaster_of_served hs⟩

/-! ## Filtration ∥ Heating, forcing side (`force` is only ever told by Filtration) -/

def filtHeat : CSpec :=
  { DM := filtrationSafetyDesc
    DX := C01.heatingForceSpec.D
    v := Filtration.v_rq_Heating
    isG := fun x => x == N.halt_ || x == N.wait_
    tells := [(3, .plain Heating.m_wait), (20, .plain Heating.m_halt), (45, .plain Heating.m_force)]
    isHaltMsg := C01.heatingForceSpec.isHaltMsg
    isHalt := C01.heatingForceSpec.isHalt
    isStart := C01.heatingForceSpec.isStart
    allowed := [] }

theorem tells_filtHeat : filtHeat.tells = tellsOf "Heating" heatingMsgs ∧ tellsResolved "Heating" heatingMsgs = true ∧ tellsInAlphabet filtHeat = true := by
  decide +kernel

theorem filtHeat_discipline : ghostDiscipline filtHeat = true := by decide +kernel

/-- Filtration's last word to Heating is `halt` or `wait` (or Heating answered halted), served ⇒ Heating is not
    `forcing` -/
theorem filtHeat_not_forcing_when_served {g : CSt} (h : CReach filtHeat g) (hidle : g.todo = [])
    (hg : g.m.v Filtration.v_rq_Heating = N.halt_ ∨ g.m.v Filtration.v_rq_Heating = N.wait_)
    (hs : noMaster g.inbox) : g.x.leaf ≠ Heating.leaf_forcing :=
  bne_iff_ne.1 (halted_of_checks filtHeat filtHeat_discipline C01.heating_force_slave_ok h hidle
    (by simpa [filtHeat, St.v] using hg) hs)

example : CReach filtHeat (cinit filtHeat) ∧ (cinit filtHeat).todo = [] ∧
    (cinit filtHeat).m.v Filtration.v_rq_Heating = N.halt_ ∧ noMaster (cinit filtHeat).inbox :=
  ⟨CReach.init, rfl, by decide, nofun⟩

theorem filtHeat_composed_halt {g : CSt} (h : CReach filtHeat g) (hidle : g.todo = [])
    (hm : g.m.leaf = Filtration.leaf_halt) (hs : noMaster g.inbox) : g.x.leaf ≠ Heating.leaf_forcing := by
  have hinv := C01.filtration_halt g.m (creach_m filtHeat h)
  simp only [C01.filtrationHaltOK, hm, bne_self_eq_false, Bool.false_or, Bool.and_eq_true, beq_iff_eq] at hinv
  exact filtHeat_not_forcing_when_served h hidle (Or.inl (by simp [hinv])) hs

/-- A composed run: eco → standby (cover opens) → comfort, whose poll tells Heating `force`; Heating serves it
    (→ `forcing`); then `halt`: Filtration tells `wait` and `halt`; Heating serves both. -/
def filtHeatStart : List Act :=
  [.master (.plain Filtration.m_eco) (fun _ => true), .drain, .serve (fun _ => true),
   .master (.plain Filtration.m_standby) (fun o => o.1.leaf == Filtration.leaf_opening_standby), .drain,
   .serve (fun _ => true),
   .master (.delayed Filtration.m_do_repeat_opening) (fun o => o.1.armed == some Filtration.m_opened), .drain,
   .master (.delayed Filtration.m_opened) (fun o => o.1.leaf == Filtration.leaf_standby_boost), .drain,
   .serve (fun _ => true),
   .master (.plain Filtration.m_comfort) (fun o => o.1.leaf == Filtration.leaf_comfort), .drain,
   .serve (fun _ => true),
   .master (.delayed Filtration.m_do_repeat_comfort) (fun o => o.2.contains (.emit 45)), .drain,
   .serve (fun s => s.leaf == Heating.leaf_forcing)]

def filtHeatStop : List Act :=
  [.master (.plain Filtration.m_halt)
     (fun o => o.2.contains (.emit 20) && !o.2.contains (.ask true [(0, 0), (1, 1)] [])), .drain,
   .serve (fun _ => true)]

theorem filtHeat_demo :
    ((run filtHeat filtHeatStart (cinit filtHeat)).bind fun g1 =>
      (run filtHeat filtHeatStop g1).map fun g2 =>
        g1.m.leaf == Filtration.leaf_comfort && g1.x.leaf == Heating.leaf_forcing &&
        g2.todo.isEmpty && g2.m.leaf == Filtration.leaf_halt && served g2 &&
        g2.x.leaf == Heating.leaf_halt) = some true := by decide +kernel

example : ∃ g1 g2, CReach filtHeat g1 ∧ g1.x.leaf = Heating.leaf_forcing ∧
    run filtHeat filtHeatStop g1 = some g2 ∧ CReach filtHeat g2 ∧ g2.todo = [] ∧
    g2.m.leaf = Filtration.leaf_halt ∧ noMaster g2.inbox := by
  obtain ⟨g1, g2, r1, h2, r2, h⟩ := run_demo filtHeat_demo
  simp only [Bool.and_eq_true, beq_iff_eq, List.isEmpty_iff] at h
  obtain ⟨⟨⟨⟨⟨_, hx⟩, htodo⟩, hm⟩, hs⟩, _⟩ := h
  exact ⟨g1, g2, r1, hx, h2, r2, htodo, hm, noMaster_of_served hs⟩

/-! ## Filtration ∥ Heating, scheduled side (`heat` is Heating's own request, guarded by `filtration_allow_heating`)

  Here the generated master does NOT do what the hand-written master of `Model/Glue.lean` does: in `comfort`
  Filtration tells Heating `force` and keeps its knowledge "Heating is not in its scheduled `heating` phase"
  (`ks:Heating = 1`), whereas `Glue.GStep.mTell` clears the ghost bit on every tell that is not halt-class.  The
  composed model is finer: `force` is neither halt-class nor a start message of this pair, so by H2 it cannot take
  Heating into `heating`, and the checker accepts it without a ghost update. -/

def filtHeatSched : CSpec :=
  { DM := filtrationSafetyDesc
    DX := C01.heatingHeatSpec.D
    v := Filtration.v_ks_Heating
    isG := fun x => x == 1
    tells := [(3, .plain Heating.m_wait), (20, .plain Heating.m_halt), (45, .plain Heating.m_force)]
    isHaltMsg := C01.heatingHeatSpec.isHaltMsg
    isHalt := C01.heatingHeatSpec.isHalt
    isStart := C01.heatingHeatSpec.isStart
    allowed := havocLeaves filtrationSafetyDesc Filtration.v_ks_Heating }

theorem tells_filtHeatSched : filtHeatSched.tells = tellsOf "Heating" heatingMsgs ∧ tellsResolved "Heating" heatingMsgs = true ∧
    tellsInAlphabet filtHeatSched = true ∧ filtHeatSched.allowed = [Filtration.leaf_heating_running] :=
  -- same tag table, same slave alphabet as `filtHeat`
  ⟨tells_filtHeat.1, tells_filtHeat.2.1, tells_filtHeat.2.2, by decide +kernel⟩

theorem filtHeatSched_discipline : ghostDiscipline filtHeatSched = true := by decide +kernel

/-- not vacuous: if `force` could start the scheduled phase (i.e. were a start message of this pair) the generated
    master would be rejected, because it tells `force` without forgetting -/
example : ghostDiscipline { filtHeatSched with isStart := fun m => m == .plain Heating.m_heat || m == .plain Heating.m_force }
    = false := by decide +kernel

/-- Filtration knows "Heating not heating" (`ks:Heating = 1`), served ⇒ Heating is not in `heating` -/
theorem filtHeatSched_not_heating_when_served {g : CSt} (h : CReach filtHeatSched g) (hidle : g.todo = [])
    (hg : g.m.v Filtration.v_ks_Heating = 1) (hs : noMaster g.inbox) : g.x.leaf ≠ Heating.leaf_heating :=
  bne_iff_ne.1 (halted_of_checks filtHeatSched filtHeatSched_discipline C01.heating_heat_slave_ok h hidle
    (beq_iff_eq.2 hg) hs)

example : CReach filtHeatSched (cinit filtHeatSched) ∧ (cinit filtHeatSched).todo = [] ∧
    (cinit filtHeatSched).m.v Filtration.v_ks_Heating = 1 ∧ noMaster (cinit filtHeatSched).inbox :=
  ⟨CReach.init, rfl, by decide, nofun⟩

/-- the master invariant of C06: outside `heating_running` Filtration knows Heating is not `heating` -/
theorem filtration_knows_not_heating : ∀ s, Reach filtrationSafetyDesc s →
    (s.v Filtration.v_ks_Heating == 1 || s.leaf == Filtration.leaf_heating_running) = true :=
  invariant_of_closed _ _ _ Cert.filtrationSafety_closed (by decide +kernel)

/-- Filtration in any phase other than `heating_running`, Heating's inbox served ⇒ Heating is not in `heating` -/
theorem filtHeatSched_composed {g : CSt} (h : CReach filtHeatSched g) (hidle : g.todo = [])
    (hm : g.m.leaf ≠ Filtration.leaf_heating_running) (hs : noMaster g.inbox) :
    g.x.leaf ≠ Heating.leaf_heating := by
  have hinv := filtration_knows_not_heating g.m (creach_m filtHeatSched h)
  simp only [Bool.or_eq_true, beq_iff_eq] at hinv
  rcases hinv with hinv | hinv
  · exact filtHeatSched_not_heating_when_served h hidle hinv hs
  · exact absurd hinv hm

/-- A composed run with a start that does NOT come from the master: eco → eco_normal → `heat` →
    `heating_running` (allowed phase: Filtration forgets); Heating's own `heat` request is accepted (→ `heating`);
    then `halt`: leaving `heating_running` Filtration tells `wait`, entering `halt` it tells `halt`; Heating serves
    both and Filtration again knows "not heating". -/
def filtHeatSchedStart : List Act :=
  [.master (.plain Filtration.m_eco) (fun o => o.1.armed == some Filtration.m_eco_normal), .drain,
   .serve (fun _ => true),
   .master (.delayed Filtration.m_eco_normal) (fun o => o.1.leaf == Filtration.leaf_eco_normal), .drain,
   .serve (fun _ => true),
   .master (.plain Filtration.m_heat) (fun o => o.1.leaf == Filtration.leaf_heating_running), .drain,
   .serve (fun _ => true),
   .other (.plain Heating.m_heat), .serve (fun s => s.leaf == Heating.leaf_heating)]

def filtHeatSchedStop : List Act :=
  [.master (.plain Filtration.m_halt)
     (fun o => o.2.contains (.emit 3) && o.2.contains (.emit 20) &&
       !o.2.contains (.ask true [(0, 0), (1, 1)] []) && !o.2.contains (.ask false [] [(1, 1)])), .drain,
   .serve (fun _ => true)]

theorem filtHeatSched_demo :
    ((run filtHeatSched filtHeatSchedStart (cinit filtHeatSched)).bind fun g1 =>
      (run filtHeatSched filtHeatSchedStop g1).map fun g2 =>
        g1.m.leaf == Filtration.leaf_heating_running && g1.m.v Filtration.v_ks_Heating == 0 &&
        g1.x.leaf == Heating.leaf_heating &&
        g2.todo.isEmpty && g2.m.leaf == Filtration.leaf_halt && served g2 &&
        g2.x.leaf == Heating.leaf_halt) = some true := by decide +kernel

example : ∃ g1 g2, CReach filtHeatSched g1 ∧ g1.x.leaf = Heating.leaf_heating ∧
    run filtHeatSched filtHeatSchedStop g1 = some g2 ∧ CReach filtHeatSched g2 ∧ g2.todo = [] ∧
    g2.m.leaf ≠ Filtration.leaf_heating_running ∧ noMaster g2.inbox := by
  obtain ⟨g1, g2, r1, h2, r2, h⟩ := run_demo filtHeatSched_demo
  simp only [Bool.and_eq_true, beq_iff_eq, List.isEmpty_iff] at h
  obtain ⟨⟨⟨⟨⟨⟨_, _⟩, hx⟩, htodo⟩, hm⟩, hs⟩, _⟩ := h
  exact ⟨g1, g2, r1, hx, h2, r2, htodo, by rw [hm]; decide, noMaster_of_served hs⟩

/-! ## Disinfection ∥ PWM(pH)  (second link of the chain Filtration → Disinfection → PWM) -/

def disPwm : CSpec :=
  { DM := disinfectionSafetyDesc
    DX := C01.pwmSpec.D
    v := Disinfection.v_rq_PWMph
    isG := fun x => x == N.do_cancel_ || x == 0        -- told `do_cancel` last, or never told anything
    tells := [(59, .plain PWM.m_do_cancel), (65, .plain PWM.m_do_run)]
    isHaltMsg := C01.pwmSpec.isHaltMsg
    isHalt := C01.pwmSpec.isHalt
    isStart := C01.pwmSpec.isStart
    allowed := havocLeaves disinfectionSafetyDesc Disinfection.v_rq_PWMph }

theorem tells_disPwm : disPwm.tells = tellsOf "PWMph" pwmMsgs ∧ tellsResolved "PWMph" pwmMsgs = true ∧ tellsInAlphabet disPwm = true ∧
    disPwm.allowed = [] := by decide +kernel

theorem disPwm_discipline : ghostDiscipline disPwm = true := by decide +kernel

/-- **Disinfection ∥ PWM, every interleaving**: Disinfection's last word to the pH loop is `do_cancel` (or nothing
    yet), served ⇒ the dosing pump is off and the loop is disarmed -/
theorem disPwm_off_when_served {g : CSt} (h : CReach disPwm g) (hidle : g.todo = [])
    (hg : g.m.v Disinfection.v_rq_PWMph = N.do_cancel_ ∨ g.m.v Disinfection.v_rq_PWMph = 0)
    (hs : noMaster g.inbox) : g.x.v PWM.v_dev_pump = 0 ∧ g.x.armed = none := by
  simpa [disPwm, C01.pwmSpec] using halted_of_checks disPwm disPwm_discipline C01.pwm_slave_ok h hidle
    (by simpa [disPwm, St.v] using hg) hs

example : CReach disPwm (cinit disPwm) ∧ (cinit disPwm).todo = [] ∧
    (cinit disPwm).m.v Disinfection.v_rq_PWMph = 0 ∧ noMaster (cinit disPwm).inbox :=
  ⟨CReach.init, rfl, by decide, nofun⟩

/-- the master invariant of C01: in `halt` Disinfection's last word to either loop is `do_cancel` (or nothing yet) -/
theorem disinfection_halt_cancelled (s : St) (hr : Reach disinfectionSafetyDesc s)
    (hl : s.leaf = Disinfection.leaf_halt) :
    (s.v Disinfection.v_rq_PWMph = N.do_cancel_ ∨ s.v Disinfection.v_rq_PWMph = 0) ∧
    (s.v Disinfection.v_rq_PWMcl = N.do_cancel_ ∨ s.v Disinfection.v_rq_PWMcl = 0) := by
  have hinv := C01.disinfection_cancels_pwm_when_halted s hr
  simp only [C01.disinfectionOutOK, hl, bne_self_eq_false, Bool.false_or, Bool.and_eq_true, Bool.or_eq_true,
    beq_iff_eq] at hinv
  exact hinv.2

/-- with the master certificate: Disinfection in `halt`, the loop's inbox served ⇒ pump off -/
theorem disPwm_composed_halt {g : CSt} (h : CReach disPwm g) (hidle : g.todo = [])
    (hm : g.m.leaf = Disinfection.leaf_halt) (hs : noMaster g.inbox) :
    g.x.v PWM.v_dev_pump = 0 ∧ g.x.armed = none :=
  disPwm_off_when_served h hidle (disinfection_halt_cancelled g.m (creach_m disPwm h) hm).1 hs

/-- A composed run: `run` → `waiting`, its timer → `running_*` where Disinfection tells the loop `do_run`; the loop
    serves it and switches the pump on; `halt`: Disinfection tells `do_cancel`; the loop serves it. -/
def disPwmStart : List Act :=
  [.master (.plain Disinfection.m_run) (fun o => o.1.leaf == Disinfection.leaf_waiting), .drain,
   .master (.delayed Disinfection.m_run) (fun o => o.2.contains (.emit 65)), .drain,
   .deliver (fun s => s.v PWM.v_dev_pump == 1)]

def disPwmStop : List Act :=
  [.master (.plain Disinfection.m_halt) (fun o => o.2.contains (.emit 59)), .drain, .serve (fun _ => true)]

theorem disPwm_demo :
    ((run disPwm disPwmStart (cinit disPwm)).bind fun g1 =>
      (run disPwm disPwmStop g1).map fun g2 =>
        g1.x.v PWM.v_dev_pump == 1 && g1.x.armed == some PWM.m_do_run &&
        g2.todo.isEmpty && g2.m.leaf == Disinfection.leaf_halt && served g2 &&
        g2.x.v PWM.v_dev_pump == 0) = some true := by decide +kernel

example : ∃ g1 g2, CReach disPwm g1 ∧ g1.x.v PWM.v_dev_pump = 1 ∧
    run disPwm disPwmStop g1 = some g2 ∧ CReach disPwm g2 ∧ g2.todo = [] ∧
    g2.m.leaf = Disinfection.leaf_halt ∧ noMaster g2.inbox := by
  obtain ⟨g1, g2, r1, h2, r2, h⟩ := run_demo disPwm_demo
  simp only [Bool.and_eq_true, beq_iff_eq, List.isEmpty_iff] at h
  obtain ⟨⟨⟨⟨⟨hx, _⟩, htodo⟩, hm⟩, hs⟩, _⟩ := h
  exact ⟨g1, g2, r1, hx, h2, r2, htodo, hm, noMaster_of_served hs⟩

/-! ## Disinfection ∥ PWM(chlorine) -/

def disPwmCl : CSpec :=
  { disPwm with
    v := Disinfection.v_rq_PWMcl
    tells := [(61, .plain PWM.m_do_cancel), (68, .plain PWM.m_do_run)]
    allowed := havocLeaves disinfectionSafetyDesc Disinfection.v_rq_PWMcl }

theorem tells_disPwmCl : disPwmCl.tells = tellsOf "PWMcl" pwmMsgs ∧ tellsResolved "PWMcl" pwmMsgs = true ∧ tellsInAlphabet disPwmCl = true ∧
    disPwmCl.allowed = [] := by decide +kernel

theorem disPwmCl_discipline : ghostDiscipline disPwmCl = true := by decide +kernel

theorem disPwmCl_composed_halt {g : CSt} (h : CReach disPwmCl g) (hidle : g.todo = [])
    (hm : g.m.leaf = Disinfection.leaf_halt) (hs : noMaster g.inbox) :
    g.x.v PWM.v_dev_pump = 0 ∧ g.x.armed = none := by
  simpa [disPwmCl, disPwm, C01.pwmSpec] using halted_of_checks disPwmCl disPwmCl_discipline C01.pwm_slave_ok h hidle
    (by simpa [disPwmCl, disPwm, St.v] using (disinfection_halt_cancelled g.m (creach_m disPwmCl h) hm).2) hs

example : CReach disPwmCl (cinit disPwmCl) ∧ (cinit disPwmCl).todo = [] ∧
    (cinit disPwmCl).m.leaf = Disinfection.leaf_halt ∧ noMaster (cinit disPwmCl).inbox :=
  ⟨CReach.init, rfl, rfl, nofun⟩

end Poupool.ComposeProps

/-! ## Side condition of the pair models, checked: only the master starts the slave

The pair models refuse a start message that does not come from the master unless the master's phase is in `allowed`
(`[]` for Disinfection, the PWMs and Heating's forcing side: "nobody else sends it").  `Gen.senders` lists every plain
message any code sends (dispatcher table, tells, asks, self-tells — regenerated); for these pairs the only sender of a
start message is the master.  (Swim's and the scheduled Heating's own starts are guarded rows: `C13.swim_start_is_guarded`,
C06.) -/
namespace Poupool.ComposeProps
open Poupool.Gen

/-- who sends `receiver` a message that can take it out of its halted states -/
def startSenders (receiver : String) (msgs : List String) (isStart : Msg → Bool) : List String :=
  ((senders.filter fun (_, r, m) => r == receiver && msgs.contains m && isStart (.plain (msgs.idxOf m))).map (·.1)).eraseDups

theorem only_master_starts :
    startSenders "Disinfection" disinfectionMsgs filtDis.isStart = ["Filtration"] ∧
    startSenders "PWMph" pwmMsgs disPwm.isStart = ["Disinfection"] ∧
    startSenders "PWMcl" pwmMsgs disPwmCl.isStart = ["Disinfection"] ∧
    startSenders "Heating" heatingMsgs filtHeat.isStart = ["Filtration"] := by decide +kernel

end Poupool.ComposeProps
