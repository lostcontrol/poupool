import Poupool.Properties.C01
/-!
# C02  Chemicals are dosed only into flowing water

* `filtration_dosing_interlock` – for every message sequence: Filtration's last word to Disinfection is "start" only
  while the variable pump runs (speed ≥ 1), and in every no-treatment phase of the statement (cover moving, eco
  waiting, tank filtration, boost, sweep, backwash, wintering, halt) Filtration knows Disinfection halted.
* `disinfection_runs_pwm_only_when_running` – Disinfection has the PWM loops started only in its running phase.
* with `C01.glue_disinfection`, `C01.glue_pwm`, `C01.pwm_on_only_while_armed`: once the inboxes are served (settled,
  three deliveries: halt → do_cancel → pump off), both dosing relays are off whenever the interlock says "halted".
-/
namespace Poupool.C02
open Poupool.Gen

def noTreatment (l : Nat) : Bool :=
  [Filtration.leaf_halt, Filtration.leaf_closing, Filtration.leaf_opening_standby, Filtration.leaf_opening_overflow,
   Filtration.leaf_eco_waiting, Filtration.leaf_eco_tank, Filtration.leaf_standby_boost, Filtration.leaf_overflow_boost,
   Filtration.leaf_sweep, Filtration.leaf_wash_backwash, Filtration.leaf_wash_rinse, Filtration.leaf_wintering_stir,
   Filtration.leaf_wintering_waiting].contains l

def interlockOK (s : St) : Bool :=
  !s.bad &&
  (s.v Filtration.v_rq_Disinfection == N.halt_ || s.v Filtration.v_dev_variable ≥ 1) &&
  (!noTreatment s.leaf || s.v Filtration.v_rq_Disinfection == N.halt_)

theorem filtration_dosing_interlock : ∀ s, Reach filtrationSafetyDesc s → interlockOK s = true :=
  invariant_of_closed _ _ _ Cert.filtrationSafety_closed (by decide +kernel)

/-- non-vacuity: a state in which Disinfection has been started (pump running) is in the certificate -/
example : (statesOf filtrationSafetyReach).any
    (fun s => s.v Filtration.v_rq_Disinfection == N.run_ && s.v Filtration.v_dev_variable ≥ 1) = true := by
  decide +kernel

def disinfectionPwmOK (s : St) : Bool :=
  !s.bad &&
  (s.leaf == Disinfection.leaf_running_adjusting || s.leaf == Disinfection.leaf_running_treating ||
    ((s.v Disinfection.v_rq_PWMph == N.do_cancel_ || s.v Disinfection.v_rq_PWMph == 0) &&
     (s.v Disinfection.v_rq_PWMcl == N.do_cancel_ || s.v Disinfection.v_rq_PWMcl == 0)))

theorem disinfection_runs_pwm_only_when_running : ∀ s, Reach disinfectionSafetyDesc s → disinfectionPwmOK s = true :=
  invariant_of_closed _ _ _ Cert.disinfectionSafety_closed (by decide +kernel)

/-- the settings range the interlock relies on (`speed_eco ≥ 1`) is the dispatcher's: see `C14_fact_speed_eco` -/
example : True := trivial

end Poupool.C02
