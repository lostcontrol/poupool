/-
C20  Dosing duty has the right sign and bounds and the PWM reproduces it.

Model: Poupool/Model/Pwm.lean (`compute`, `phDuty`, `orpDuty`, `dutyOn`, `tick`, `cancel`), constants (constrain bounds,
the negation applied by `ph_pterm`, scales) from the regenerated Poupool/Generated/PwmConfig.lean.
Numbers are exact rationals (`Rat`): binary64 rounding is outside the model (see the correspondence check).
-/
import Poupool.Proofs.PwmFraction
import Poupool.Generated.PwmConfig

namespace Poupool.C20
open Poupool.Pwm Poupool.Generated

/-! ## P-controller -/

theorem cfg_bounds : pwmCfg.pcLo = 0 ∧ pwmCfg.pcHi = 1 := by decide +kernel
theorem cfg_ph : pwmCfg.phPtermSign = -1 ∧ pwmCfg.phScale = 1 := by decide +kernel
theorem cfg_orp : pwmCfg.orpPtermSign = 1 ∧ 0 < pwmCfg.orpScale := by decide +kernel

/-- The commanded duty is within [0,1] for every setpoint, reading, gain and scale. -/
theorem c20_compute_bounds (setpoint current pterm scale : Rat) :
    0 ≤ compute pwmCfg setpoint current pterm scale ∧ compute pwmCfg setpoint current pterm scale ≤ 1 := by
  have h := constrain_bounds ((pterm * scale) * (setpoint - current)) pwmCfg.pcLo pwmCfg.pcHi (by decide +kernel)
  rwa [cfg_bounds.1, cfg_bounds.2] at h

example : compute pwmCfg 7 (15 / 2) (-1) 1 = 1 / 2 := by decide +kernel
example : compute pwmCfg 7 9 (-1) 1 = 1 := by decide +kernel

/-- The duties that reach the two PWMs are within [0,1], enabled or not. -/
theorem c20_duty_bounds (en : Bool) (u sp x : Rat) :
    (0 ≤ phDuty pwmCfg en u sp x ∧ phDuty pwmCfg en u sp x ≤ 1) ∧
    (0 ≤ orpDuty pwmCfg en u sp x ∧ orpDuty pwmCfg en u sp x ≤ 1) := by
  unfold phDuty orpDuty feedback
  have h1 := c20_compute_bounds sp x (pwmCfg.phPtermSign * u) pwmCfg.phScale
  have h2 := c20_compute_bounds sp x (pwmCfg.orpPtermSign * u) pwmCfg.orpScale
  cases en <;> simp only [Bool.false_eq_true, if_false, if_true] <;> grind

example : phDuty pwmCfg true 1 7 (29 / 4) = 1 / 4 ∧ orpDuty pwmCfg true 1 600 500 = 1 / 2 := by decide +kernel

/-- Regulation disabled ⇒ duty 0. -/
theorem c20_disabled_zero (u sp x : Rat) : phDuty pwmCfg false u sp x = 0 ∧ orpDuty pwmCfg false u sp x = 0 := by
  simp [phDuty, orpDuty, feedback]

example : phDuty pwmCfg false 10 6 14 = 0 := (c20_disabled_zero 10 6 14).1

/-- pH-minus dosing: with any accepted gain (user pterm ≥ 0, stored negated) the duty is 0 when pH ≤ setpoint. -/
theorem c20_ph_zero (en : Bool) (u sp ph : Rat) (hu : 0 ≤ u) (h : ph ≤ sp) : phDuty pwmCfg en u sp ph = 0 := by
  unfold phDuty
  rw [compute_low _ (by decide +kernel), cfg_bounds.1]
  · cases en <;> rfl
  · rw [cfg_ph.1, cfg_ph.2, cfg_bounds.1]
    have := Rat.mul_nonneg hu (show 0 ≤ sp - ph by grind)
    grind

example : phDuty pwmCfg true 10 7 (13 / 2) = 0 := c20_ph_zero true 10 7 (13 / 2) (by decide +kernel) (by decide +kernel)

/-- pH duty never decreases as the error (pH − setpoint) grows. -/
theorem c20_ph_mono (en : Bool) (u sp₁ sp₂ ph₁ ph₂ : Rat) (hu : 0 ≤ u) (h : ph₁ - sp₁ ≤ ph₂ - sp₂) :
    phDuty pwmCfg en u sp₁ ph₁ ≤ phDuty pwmCfg en u sp₂ ph₂ := by
  refine feedback_le (compute_le _ ?_)
  rw [cfg_ph.1, cfg_ph.2]
  have := Rat.mul_le_mul_of_nonneg_left (show sp₂ - ph₂ ≤ sp₁ - ph₁ by grind) hu
  grind

example : phDuty pwmCfg true 1 7 (29 / 4) ≤ phDuty pwmCfg true 1 7 (15 / 2) :=
  c20_ph_mono true 1 7 7 (29 / 4) (15 / 2) (by decide +kernel) (by decide +kernel)

/-- Chlorine dosing: with any accepted gain (user pterm ≥ 0) the duty is 0 when ORP ≥ setpoint. -/
theorem c20_orp_zero (en : Bool) (u sp orp : Rat) (hu : 0 ≤ u) (h : sp ≤ orp) : orpDuty pwmCfg en u sp orp = 0 := by
  unfold orpDuty
  rw [compute_low _ (by decide +kernel), cfg_bounds.1]
  · cases en <;> rfl
  · rw [cfg_orp.1, cfg_bounds.1]
    have := Rat.mul_nonneg (Rat.mul_nonneg hu (Rat.le_of_lt cfg_orp.2)) (show 0 ≤ orp - sp by grind)
    grind

example : orpDuty pwmCfg true 10 600 650 = 0 := c20_orp_zero true 10 600 650 (by decide +kernel) (by decide +kernel)

/-- Chlorine duty never decreases as the error (setpoint − ORP) grows. -/
theorem c20_orp_mono (en : Bool) (u sp₁ sp₂ orp₁ orp₂ : Rat) (hu : 0 ≤ u) (h : sp₁ - orp₁ ≤ sp₂ - orp₂) :
    orpDuty pwmCfg en u sp₁ orp₁ ≤ orpDuty pwmCfg en u sp₂ orp₂ := by
  refine feedback_le (compute_le _ ?_)
  rw [cfg_orp.1, Rat.one_mul]
  exact Rat.mul_le_mul_of_nonneg_left h (Rat.mul_nonneg hu (Rat.le_of_lt cfg_orp.2))

example : orpDuty pwmCfg true 1 600 550 ≤ orpDuty pwmCfg true 1 600 500 :=
  c20_orp_mono true 1 600 600 550 500 (by decide +kernel) (by decide +kernel)

/-! ## minimum-run-time rounding -/

/-- The rounding of the property statement, exactly: duty 0 ↦ 0; a positive on-time shorter than the minimum run time is
lengthened to it; otherwise an on-time within the minimum run time of the period means continuously on; otherwise the
on-time is duty·period.  (0 ≤ duty, 0 < period, 0 ≤ min_runtime ≤ period.) -/
theorem c20_dutyOn_rounding (v P m : Rat) (hv : 0 ≤ v) (hP : 0 < P) (hm : m ≤ P) :
    (v = 0 → dutyOn v P m = 0) ∧
    (0 < v → v * P < m → dutyOn v P m = m) ∧
    (m ≤ v * P → P - m < v * P → dutyOn v P m = P) ∧
    (m ≤ v * P → v * P ≤ P - m → dutyOn v P m = v * P) := by
  refine ⟨?_, ?_, ?_, ?_⟩
  · intro h; rw [h]; exact dutyOn_zero hm
  · intro h0 h1
    have : 0 < v * P := Rat.mul_pos h0 hP
    unfold dutyOn; grind
  · intro h0 h1; unfold dutyOn; grind
  · intro h0 h1; unfold dutyOn; grind

example : dutyOn 0 120 3 = 0 ∧ dutyOn (1 / 100) 120 3 = 3 ∧ dutyOn (99 / 100) 120 3 = 120 ∧ dutyOn (1 / 2) 120 3 = 60 := by
  decide +kernel

/-- 0 ≤ dutyOn ≤ period, and a non-zero on-time is at least the minimum run time. -/
theorem c20_dutyOn_range (v P m : Rat) (hv0 : 0 ≤ v) (hv1 : v ≤ 1) (hm0 : 0 ≤ m) (hm : m ≤ P) :
    0 ≤ dutyOn v P m ∧ dutyOn v P m ≤ P ∧ (dutyOn v P m = 0 ∨ m ≤ dutyOn v P m) :=
  dutyOn_range hv0 hv1 hm0 hm

example : (0 : Rat) ≤ 1 / 2 ∧ (1 / 2 : Rat) ≤ 1 ∧ (0 : Rat) ≤ 3 ∧ (3 : Rat) ≤ 120 := by decide +kernel

/-! ## PWM -/

/-- Duty 0 means never on: from a PWM whose pump is off, with `value = 0` and `min_runtime ≤ period`, no sequence of
ticks, waits and cancels (any spacing, any length) ever switches the pump on. -/
theorem c20_zero_never_on (g : G) (ops : List Op) (hv : g.s.value = 0) (hm : g.s.minRuntime ≤ g.s.period)
    (hoff : g.s.pumpOn = false ∧ g.s.state = false) (hc : Const ops) :
    (runG pwmCfg g ops).s.pumpOn = false :=
  (zinv_run pwmCfg ⟨onOf_zero hv hm, hoff.2, hoff.1⟩ hc).2.2

def zeroOps : List Op := [.tick] ++ (List.replicate 30 [Op.wait 1000000, Op.tick]).flatten

example : Const zeroOps ∧ (G.init pwmCfg 10 3 7200 0).s.value = 0 ∧
    (G.init pwmCfg 10 3 7200 0).s.minRuntime ≤ (G.init pwmCfg 10 3 7200 0).s.period := by decide +kernel
/-- … whereas a positive duty does switch it on in the same schedule (the theorem is not vacuous) -/
example : (runG pwmCfg (G.init pwmCfg 10 3 7200 0) ((Op.setValue (1 / 2) :: zeroOps).take 12)).s.pumpOn = true := by decide +kernel

/-- No on-pulse is shorter than the minimum run time unless cut by a halt (do_cancel) or by the security cap:
for EVERY op list (duty and period written at arbitrary instants, any tick spacing, any number of cancels/restarts;
only assumption: time does not run backwards), whenever a tick switches the pump off while the security timer it has
just updated has not elapsed, the pulse has lasted at least `min_runtime` AND at least `dutyOn` of the duty in force at
that tick.  (`short` is the ghost flag of Proofs/PwmDuty.lean that records a pulse violating either.) -/
theorem c20_pulse_min_runtime (period minRt : Rat) (S start : Int) (ops : List Op) (hm : Mono ops) :
    (runH pwmCfg (H.init pwmCfg period minRt S start) ops).short = false :=
  (pinv_run pwmCfg (pinv_init pwmCfg period minRt S start) hm).hshort

/-- The LOWER half per pulse of "the PWM reproduces the duty": a pulse that ends by itself has lasted ≥ dutyOn' ≥
min_runtime, for arbitrary op lists (duty / period written at any instant, cancels, any tick spacing).  The statement of
`c20_pulse_min_runtime` under the name of the on-fraction clause: it needs none of the hypotheses of the theorems below
(`c20_phase_lengths`, `c20_cycles`, `c20_cycle_fraction`, `c20_on_fraction`, `c20_zero_on`, `c20_full_on`), which give the
upper halves, the pauses and the on-fraction over whole periods at constant duty. -/
theorem c20_on_fraction_partial (period minRt : Rat) (S start : Int) (ops : List Op) (hm : Mono ops) :
    (runH pwmCfg (H.init pwmCfg period minRt S start) ops).short = false :=
  c20_pulse_min_runtime period minRt S start ops hm

/-- non-vacuity: P = 10, min_runtime = 3, duty 1/2 written, pump switched on at the tick at 5 s, duty written to 0 one
second later: the pulse is NOT cut at the next tick (6 s) but runs until its age is 3 s (tick at 8 s). -/
def dropOps : List Op :=
  [.setValue (1 / 2), .tick] ++ (List.replicate 5 [Op.wait 1000000, Op.tick]).flatten ++
  [.setValue 0] ++ (List.replicate 4 [Op.wait 1000000, Op.tick]).flatten

example : Mono dropOps := by decide +kernel
example : (runH pwmCfg (H.init pwmCfg 10 3 7200 0) (dropOps.take 12)).g.s.pumpOn = true ∧
    (runH pwmCfg (H.init pwmCfg 10 3 7200 0) (dropOps.take 15)).g.s.pumpOn = true ∧
    (runH pwmCfg (H.init pwmCfg 10 3 7200 0) (dropOps.take 17)).g.s.pumpOn = true ∧
    (runH pwmCfg (H.init pwmCfg 10 3 7200 0) (dropOps.take 19)).g.s.pumpOn = false ∧
    (runH pwmCfg (H.init pwmCfg 10 3 7200 0) (dropOps.take 19)).onSince = 5000000 ∧
    (runH pwmCfg (H.init pwmCfg 10 3 7200 0) (dropOps.take 19)).g.clock = 8000000 := by decide +kernel

/-! ## on-fraction over whole periods at constant duty (Proofs/PwmFraction.lean)

Setting of the theorems below.  `s` is a PWM state at a CYCLE BOUNDARY at instant `t0` (`Boundary v P m s t0`: pump off,
accumulator 0, the do_run at `t0` just executed, duty `v`, period `P`, min_runtime `m`): by `c20_fresh_boundary` that is
the state right after the FIRST do_run following construction or do_cancel (which only records the instant – the first
phase of the PWM is an off-pause measured from that do_run), and by `c20_boundary_again` also the state after any do_run
that has just switched the pump off.  `ds` are the gaps (µs) between the further do_runs, each within [0, Δ]
(`Gaps Δ ds`; the property's quantifier is the special case 0.5 s ≤ gap ≤ Δ = 1.5 s); duty, period, min_runtime are not
written and do_cancel is not called during the run; `capHit = false`: no do_run of the run found the security timer
elapsed (C03 takes precedence over the duty; `c20_no_cap_of_budget` gives a sufficient condition on the start state).
`dutyOn v P m` is the rounded on-time of `c20_dutyOn_rounding`, `secs` converts µs to seconds.
Quantifier: every duty 0 ≤ v ≤ 1, every period P > 0 (⊇ 10..600 s), every 0 ≤ m ≤ P (⊇ 0..10 s). -/

/-- Fresh starts are cycle boundaries: after `PWM.__init__` + `value = v`, or after `do_cancel`, the first do_run (at any
instant `t0`) leaves the PWM in a `Boundary` state at `t0`. -/
theorem c20_fresh_boundary (v P m : Rat) (S start t0 : Int) (s : PwmState) (tc : Int) :
    Boundary v P m (tick pwmCfg t0 (setValue v (PwmState.init pwmCfg P m S start))) t0 ∧
    Boundary s.value s.period s.minRuntime (tick pwmCfg t0 (cancel tc s)) t0 :=
  ⟨boundary_of_idle pwmCfg t0 (s := setValue v (PwmState.init pwmCfg P m S start)) rfl rfl rfl rfl,
    boundary_of_idle pwmCfg t0 (s := cancel tc s) rfl rfl rfl rfl⟩

example : Boundary (1 / 2) 10 3 (tick pwmCfg 0 (setValue (1 / 2) (PwmState.init pwmCfg 10 3 7200 0))) 0 :=
  (c20_fresh_boundary (1 / 2) 10 3 7200 0 0 (PwmState.init pwmCfg 10 3 7200 0) 0).1

/-- (1) Phase lengths.  Every completed on-pulse lasts within [dutyOn', dutyOn' + Δ) and every completed off-pause within
[period − dutyOn', period − dutyOn' + Δ] (strictly below the upper end unless dutyOn' = period, where the only pause is
the first tick gap).  All duties, no side condition relating Δ to the phase lengths: the `constrain(…, 0, period)` clamp
is harmless because both thresholds are ≤ period. -/
theorem c20_phase_lengths (v P m : Rat) (Δ : Int) (s : PwmState) (t0 : Int) (ds : List Int)
    (hs : Boundary v P m s t0) (hv0 : 0 ≤ v) (hv1 : v ≤ 1) (hP : 0 < P) (hm0 : 0 ≤ m) (hm : m ≤ P) (hΔ : 0 ≤ Δ)
    (hg : Gaps Δ ds) (hcap : (runF pwmCfg (F.begin s t0) ds).capHit = false) :
    (∀ p ∈ (runF pwmCfg (F.begin s t0) ds).pulses,
      dutyOn v P m ≤ secs p ∧ secs p < dutyOn v P m + secs Δ) ∧
    (∀ p ∈ (runF pwmCfg (F.begin s t0) ds).pauses,
      P - dutyOn v P m ≤ secs p ∧ secs p ≤ P - dutyOn v P m + secs Δ ∧
      (dutyOn v P m < P → secs p < P - dutyOn v P m + secs Δ)) := by
  obtain ⟨hb, _, hc⟩ := run_cases pwmCfg hs hv0 hv1 hP hm0 hm hg rfl hcap
  rcases hc with ⟨_, hz⟩ | ⟨h1, hf, _⟩ | ⟨_, _, hn⟩
  · simp [hz.hpl, hz.hpa]
  · obtain ⟨g1, g2⟩ := hf
    rw [g1, h1]
    refine ⟨by simp, ?_⟩
    rcases g2 with ⟨_, _, k⟩ | ⟨_, q, k, k1, k2⟩
    · rw [k]
      simp
    · rw [k]
      simp only [List.mem_cons, List.not_mem_nil, or_false, forall_eq]
      have a := secs_nonneg k1
      have b := secs_mono k2
      exact ⟨by grind, by grind, fun h => absurd h (by grind)⟩
  · refine ⟨hn.hpulses, fun p hp => ?_⟩
    have := hn.hpauses p hp
    exact ⟨this.1, Rat.le_of_lt this.2, fun _ => this.2⟩

/-- P = 10 s, min_runtime 3 s, duty 1/2 (on' = 5 s), ticks alternately 1.5 s and 0.5 s apart, 40 do_runs after the first -/
def halfGaps : List Int := (List.replicate 20 [1500000, 500000]).flatten
def halfStart : PwmState := tick pwmCfg 0 (setValue (1 / 2) (PwmState.init pwmCfg 10 3 7200 0))

example : Gaps 1500000 halfGaps ∧ (runF pwmCfg (F.begin halfStart 0) halfGaps).capHit = false ∧
    (runF pwmCfg (F.begin halfStart 0) halfGaps).pulses = [6000000, 6000000, 6000000] ∧
    (runF pwmCfg (F.begin halfStart 0) halfGaps).pauses = [6000000, 6000000, 5500000] := by decide +kernel

/-- (2) Cycle-aligned windows.  Over any run of do_runs that starts at a cycle boundary and ends at one (the last do_run
switched the pump off) and so contains exactly n completed (pause, pulse) cycles, the energised time T_on satisfies
n·dutyOn' ≤ T_on ≤ n·(dutyOn' + Δ) and the elapsed time T satisfies n·period ≤ T ≤ n·(period + 2Δ), both upper bounds
strict when n ≥ 1; in particular 0 ≤ T_on − n·dutyOn' < n·Δ.  (Non-degenerate duties 0 < dutyOn' < period; the other two
cases have no completed cycle: `c20_zero_on`, `c20_full_on`.) -/
theorem c20_cycles (v P m : Rat) (Δ : Int) (s : PwmState) (t0 : Int) (ds : List Int)
    (hs : Boundary v P m s t0) (hv0 : 0 ≤ v) (hv1 : v ≤ 1) (hP : 0 < P) (hm0 : 0 ≤ m) (hm : m ≤ P) (hΔ : 0 ≤ Δ)
    (hg : Gaps Δ ds) (hcap : (runF pwmCfg (F.begin s t0) ds).capHit = false)
    (h0 : 0 < dutyOn v P m) (h1 : dutyOn v P m < P) (hat : AtBoundary (runF pwmCfg (F.begin s t0) ds))
    (n : Nat) (hn : (runF pwmCfg (F.begin s t0) ds).pulses.length = n) :
    ((n : Rat) * dutyOn v P m ≤ secs (runF pwmCfg (F.begin s t0) ds).onTime ∧
      secs (runF pwmCfg (F.begin s t0) ds).onTime ≤ (n : Rat) * (dutyOn v P m + secs Δ) ∧
      (n ≠ 0 → secs (runF pwmCfg (F.begin s t0) ds).onTime < (n : Rat) * (dutyOn v P m + secs Δ))) ∧
    ((n : Rat) * P ≤ secs ((runF pwmCfg (F.begin s t0) ds).clock - t0) ∧
      secs ((runF pwmCfg (F.begin s t0) ds).clock - t0) ≤ (n : Rat) * (P + 2 * secs Δ) ∧
      (n ≠ 0 → secs ((runF pwmCfg (F.begin s t0) ds).clock - t0) < (n : Rat) * (P + 2 * secs Δ))) := by
  obtain ⟨hb, ht, hc⟩ := run_cases pwmCfg hs hv0 hv1 hP hm0 hm hg rfl hcap
  rcases hc with ⟨h, _⟩ | ⟨h, _⟩ | ⟨_, _, hnd⟩
  · exact (Rat.lt_irrefl (h ▸ h0)).elim
  · exact (Rat.lt_irrefl (h ▸ h1)).elim
  · subst hn
    have := And.intro (cycles_parts hb hnd hat).1 (cycles_bounds hb hnd hat)
    rw [ht] at this
    simpa only [ne_eq, List.length_eq_zero_iff] using this

example : AtBoundary (runF pwmCfg (F.begin halfStart 0) (halfGaps.take 35)) ∧
    (runF pwmCfg (F.begin halfStart 0) (halfGaps.take 35)).pulses.length = 3 ∧
    (runF pwmCfg (F.begin halfStart 0) (halfGaps.take 35)).onTime = 18000000 ∧
    (runF pwmCfg (F.begin halfStart 0) (halfGaps.take 35)).clock = 35500000 ∧
    (0 : Rat) < dutyOn (1 / 2) 10 3 ∧ dutyOn (1 / 2) 10 3 < 10 := by decide +kernel

/-- (3) The property's statement on cycle-aligned windows: over a window as in (2) with n ≥ 1 the on-fraction T_on / T
differs from dutyOn' / period by LESS THAN Δ / period – one maximal tick gap per period (the property allows two). -/
theorem c20_cycle_fraction (v P m : Rat) (Δ : Int) (s : PwmState) (t0 : Int) (ds : List Int)
    (hs : Boundary v P m s t0) (hv0 : 0 ≤ v) (hv1 : v ≤ 1) (hP : 0 < P) (hm0 : 0 ≤ m) (hm : m ≤ P) (hΔ : 0 ≤ Δ)
    (hg : Gaps Δ ds) (hcap : (runF pwmCfg (F.begin s t0) ds).capHit = false)
    (h0 : 0 < dutyOn v P m) (h1 : dutyOn v P m < P) (hat : AtBoundary (runF pwmCfg (F.begin s t0) ds))
    (hne : (runF pwmCfg (F.begin s t0) ds).pulses ≠ []) :
    secs (runF pwmCfg (F.begin s t0) ds).onTime / secs ((runF pwmCfg (F.begin s t0) ds).clock - t0)
        - dutyOn v P m / P < secs Δ / P ∧
    dutyOn v P m / P
        - secs (runF pwmCfg (F.begin s t0) ds).onTime / secs ((runF pwmCfg (F.begin s t0) ds).clock - t0)
        < secs Δ / P := by
  obtain ⟨hb, ht, hc⟩ := run_cases pwmCfg hs hv0 hv1 hP hm0 hm hg rfl hcap
  rcases hc with ⟨h, _⟩ | ⟨h, _⟩ | ⟨_, _, hnd⟩
  · exact (Rat.lt_irrefl (h ▸ h0)).elim
  · exact (Rat.lt_irrefl (h ▸ h1)).elim
  · have := cycles_fraction hb hnd hat h0 h1 hΔ hne
    rw [ht] at this
    exact this

example : (runF pwmCfg (F.begin halfStart 0) (halfGaps.take 35)).pulses ≠ [] ∧
    secs (runF pwmCfg (F.begin halfStart 0) (halfGaps.take 35)).onTime /
      secs ((runF pwmCfg (F.begin halfStart 0) (halfGaps.take 35)).clock - 0) = 36 / 71 := by decide +kernel

/-- (3') The property's statement on WALL-CLOCK windows, all duties: over the window [t0, t0 + n·period] counted from a
cycle boundary (in particular from the first do_run after a fresh start – the reading decided by the monitor of
checks/c20.py) the energised time differs from n·dutyOn' by at most n·Δ: one maximal tick gap per period.  `x` is the end
of the window, anywhere between the last do_run of the run and the next one (which comes within Δ);
`onUpTo f x` = energised µs within [t0, x]. -/
theorem c20_on_fraction (v P m : Rat) (Δ : Int) (s : PwmState) (t0 : Int) (ds : List Int)
    (hs : Boundary v P m s t0) (hv0 : 0 ≤ v) (hv1 : v ≤ 1) (hP : 0 < P) (hm0 : 0 ≤ m) (hm : m ≤ P)
    (hg : Gaps Δ ds) (hcap : (runF pwmCfg (F.begin s t0) ds).capHit = false)
    (x : Int) (hx0 : (runF pwmCfg (F.begin s t0) ds).clock ≤ x) (hx1 : x ≤ (runF pwmCfg (F.begin s t0) ds).clock + Δ)
    (n : Nat) (hw : secs (x - t0) = (n : Rat) * P) :
    (n : Rat) * (dutyOn v P m - secs Δ) ≤ secs (onUpTo (runF pwmCfg (F.begin s t0) ds) x) ∧
    secs (onUpTo (runF pwmCfg (F.begin s t0) ds) x) ≤ (n : Rat) * (dutyOn v P m + secs Δ) := by
  have hδ := secs_nonneg (show 0 ≤ Δ by omega)
  have hnδ := Rat.mul_nonneg (Rat.natCast_nonneg (a := n)) hδ
  obtain ⟨hb, ht, hc⟩ := run_cases pwmCfg hs hv0 hv1 hP hm0 hm hg rfl hcap
  rcases hc with ⟨h, hz⟩ | ⟨h, hf, _⟩ | ⟨h0, h1, hnd⟩
  · have e : onUpTo (runF pwmCfg (F.begin s t0) ds) x = 0 := by
      simp [onUpTo, hz.hp, hz.onTime hb]
    rw [e, h, secs_zero]
    constructor <;> grind
  · obtain ⟨k0, k1, k2⟩ := full_bounds hb hf hx0 hx1
    have m0 := secs_nonneg k0
    have m1 := secs_mono k1
    have m2 := secs_mono k2
    rw [ht, secs_sub, hw] at m1
    rw [ht, hw] at m2
    rw [h]
    refine ⟨?_, by grind⟩
    -- n·P − Δ ≤ energised, and n·Δ is no less than Δ unless n = 0
    cases n with
    | zero => simpa using m0
    | succ k =>
      have := Rat.mul_nonneg (Rat.natCast_nonneg (a := k)) hδ
      grind
  · obtain ⟨w1, w2⟩ := wall_bounds hb hnd h0 h1 hx0 hx1 (n := n) (by rw [ht, hw]; exact Rat.le_refl)
    rw [ht, secs_sub, hw] at w2
    exact ⟨by grind, w1⟩

theorem halfBoundary : Boundary (1 / 2) 10 3 halfStart 0 :=
  (c20_fresh_boundary (1 / 2) 10 3 7200 0 0 (PwmState.init pwmCfg 10 3 7200 0) 0).1

/-- the theorem applied: window [0 s, 30 s] = 3 periods of 10 s at duty 1/2, Δ = 1.5 s -/
example : ((3 : Nat) : Rat) * (dutyOn (1 / 2) 10 3 - secs 1500000) ≤
      secs (onUpTo (runF pwmCfg (F.begin halfStart 0) (halfGaps.take 29)) 30000000) ∧
    secs (onUpTo (runF pwmCfg (F.begin halfStart 0) (halfGaps.take 29)) 30000000) ≤
      ((3 : Nat) : Rat) * (dutyOn (1 / 2) 10 3 + secs 1500000) :=
  c20_on_fraction (1 / 2) 10 3 1500000 halfStart 0 (halfGaps.take 29) halfBoundary (by decide +kernel) (by decide +kernel)
    (by decide +kernel) (by decide +kernel) (by decide +kernel) (by decide +kernel) (by decide +kernel) 30000000
    (by decide +kernel) (by decide +kernel) 3 (by decide +kernel)

/-- the window [0 s, 30 s] = 3 periods ends after the do_run at 29.5 s (next one due by 31 s); 12.5 s energised vs 3·5 s -/
example : (runF pwmCfg (F.begin halfStart 0) (halfGaps.take 29)).clock = 29500000 ∧
    Gaps 1500000 (halfGaps.take 29) ∧ secs (30000000 - 0) = ((3 : Nat) : Rat) * 10 ∧
    onUpTo (runF pwmCfg (F.begin halfStart 0) (halfGaps.take 29)) 30000000 = 12500000 := by decide +kernel

/-- dutyOn' = 0 (duty·period = 0): never on, whatever the security timer does – no pulse, energised time 0. -/
theorem c20_zero_on (v P m : Rat) (Δ : Int) (s : PwmState) (t0 : Int) (ds : List Int)
    (hs : Boundary v P m s t0) (hP : 0 ≤ P) (h0 : dutyOn v P m = 0) (hg : Gaps Δ ds) :
    (runF pwmCfg (F.begin s t0) ds).s.pumpOn = false ∧ (runF pwmCfg (F.begin s t0) ds).pulses = [] ∧
    (runF pwmCfg (F.begin s t0) ds).onTime = 0 := by
  have hb0 := base_begin hs hP
  have hz := zero_run pwmCfg hP h0 hb0 ⟨hs.hpump, rfl, rfl⟩ hg
  exact ⟨hz.hp, hz.hpl, hz.onTime (base_run pwmCfg hP hb0 hg).1⟩

example : dutyOn 0 10 3 = 0 ∧ (runF pwmCfg (F.begin (tick pwmCfg 0 (PwmState.init pwmCfg 10 3 7200 0)) 0) halfGaps).clock
    = 40000000 := by decide +kernel

/-- dutyOn' = period (duty within min_runtime of 100 %): continuously on – the pump is switched on by the second do_run
and never off, so the energised time is the elapsed time less the first tick gap (≤ Δ). -/
theorem c20_full_on (v P m : Rat) (Δ : Int) (s : PwmState) (t0 : Int) (ds : List Int)
    (hs : Boundary v P m s t0) (hv0 : 0 ≤ v) (hv1 : v ≤ 1) (hP : 0 < P) (hm0 : 0 ≤ m) (hm : m ≤ P) (hΔ : 0 ≤ Δ)
    (hg : Gaps Δ ds) (hcap : (runF pwmCfg (F.begin s t0) ds).capHit = false) (h1 : dutyOn v P m = P) :
    (ds ≠ [] → (runF pwmCfg (F.begin s t0) ds).s.pumpOn = true) ∧ (runF pwmCfg (F.begin s t0) ds).pulses = [] ∧
    (runF pwmCfg (F.begin s t0) ds).clock - t0 - Δ ≤ (runF pwmCfg (F.begin s t0) ds).onTime ∧
    (runF pwmCfg (F.begin s t0) ds).onTime ≤ (runF pwmCfg (F.begin s t0) ds).clock - t0 := by
  obtain ⟨hb, ht, hc⟩ := run_cases pwmCfg hs hv0 hv1 hP hm0 hm hg rfl hcap
  rcases hc with ⟨h, _⟩ | ⟨_, hf, hon⟩ | ⟨_, h, _⟩
  · exact (Rat.lt_irrefl (h ▸ h1 ▸ hP)).elim
  · have := full_bounds hb hf (Int.le_refl _) (show _ ≤ _ + Δ by omega)
    simp only [onUpTo, Int.sub_self, ite_self, Int.add_zero, ht] at this
    exact ⟨hon, hf.1, this.2.1, this.2.2⟩
  · exact (Rat.lt_irrefl (h1 ▸ h)).elim

def fullStart : PwmState := tick pwmCfg 0 (setValue (127 / 128) (PwmState.init pwmCfg 10 3 7200 0))

example : dutyOn (127 / 128) 10 3 = 10 ∧ (runF pwmCfg (F.begin fullStart 0) halfGaps).capHit = false ∧
    (runF pwmCfg (F.begin fullStart 0) halfGaps).onTime = 38500000 ∧
    (runF pwmCfg (F.begin fullStart 0) halfGaps).clock = 40000000 := by decide +kernel

/-- A do_run that switches the pump off leaves a cycle boundary again, so (1)–(3') also hold for windows that start at
any later cycle boundary, not only at the fresh start. -/
theorem c20_boundary_again (v P m : Rat) (Δ : Int) (s : PwmState) (t0 : Int) (ds : List Int)
    (hs : Boundary v P m s t0) (hP : 0 ≤ P) (hg : Gaps Δ ds) (hat : AtBoundary (runF pwmCfg (F.begin s t0) ds)) :
    Boundary v P m (runF pwmCfg (F.begin s t0) ds).s (runF pwmCfg (F.begin s t0) ds).clock := by
  obtain ⟨hb, _⟩ := base_run pwmCfg hP (base_begin hs hP) hg
  obtain ⟨hp, hps⟩ := hat
  refine ⟨hb.hv, hb.hP, hb.hm, hb.hlast, ?_, by rw [← hb.hst, hp], hp⟩
  rw [hb.hdur, hps]
  exact constrain_secs_self hP

example : AtBoundary (runF pwmCfg (F.begin halfStart 0) (halfGaps.take 35)) ∧ Gaps 1500000 (halfGaps.take 35) := by
  decide +kernel

/-- "Security cap not reached" follows from a budget: if the security timer of the start state has no stale reference
instant, a non-negative count, and count + total length of the run < its delay, then no do_run of the run finds it
elapsed.  (After `PWM.__init__` the count is 0 and the delay is SECURITY_DURATION seconds; `do_cancel` keeps the count.) -/
theorem c20_no_cap_of_budget (v P m : Rat) (Δ : Int) (s : PwmState) (t0 : Int) (ds : List Int)
    (hs : Boundary v P m s t0) (hP : 0 ≤ P) (hg : Gaps Δ ds)
    (hl : s.sec.last = none ∨ s.sec.last = some t0) (hd : 0 ≤ s.sec.duration)
    (hbud : s.sec.duration + ds.sum < s.sec.delay) :
    (runF pwmCfg (F.begin s t0) ds).capHit = false :=
  nocap_run pwmCfg hP (base_begin hs hP) ⟨hl, hd⟩ hg hbud

example : halfStart.sec.last = none ∧ halfStart.sec.duration = 0 ∧ halfStart.sec.delay = 7200000000 ∧
    halfGaps.sum = 40000000 := by decide +kernel

/-- The hypothesis `capHit = false` of `c20_on_fraction` cannot be dropped (by design: the security cap of C03 takes
precedence over the duty).  Witness: SECURITY_DURATION = 5 s, period 10 s, min_runtime 3 s, duty 1 (dutyOn' = 10 s), do_runs
every second from 0 s to 10 s: the pump is switched on at 1 s, cut by the security timer at 6 s and kept off, so the
window [0 s, 10 s] = 1 period has 5 s energised instead of 10 s ± 1.5 s.  Replayed on the real class by checks/c20.py. -/
def capStart : PwmState := tick pwmCfg 0 (setValue 1 (PwmState.init pwmCfg 10 3 5 0))
def capGaps : List Int := List.replicate 10 1000000

theorem c20_on_fraction_without_cap_hypothesis_counterexample :
    Boundary 1 10 3 capStart 0 ∧ Gaps 1500000 capGaps ∧
    (runF pwmCfg (F.begin capStart 0) capGaps).clock = 10000000 ∧ secs (10000000 - 0) = ((1 : Nat) : Rat) * 10 ∧
    (runF pwmCfg (F.begin capStart 0) capGaps).capHit = true ∧
    onUpTo (runF pwmCfg (F.begin capStart 0) capGaps) 10000000 = 5000000 ∧
    ¬ (((1 : Nat) : Rat) * (dutyOn 1 10 3 - secs 1500000) ≤
        secs (onUpTo (runF pwmCfg (F.begin capStart 0) capGaps) 10000000)) :=
  ⟨(c20_fresh_boundary 1 10 3 5 0 0 (PwmState.init pwmCfg 10 3 5 0) 0).1, by decide +kernel, by decide +kernel,
    by decide +kernel, by decide +kernel, by decide +kernel, by decide +kernel⟩

/-- … whereas with the configured SECURITY_DURATION the same schedule is within the bound -/
example : (runF pwmCfg (F.begin fullStart 0) capGaps).capHit = false ∧
    onUpTo (runF pwmCfg (F.begin fullStart 0) capGaps) 10000000 = 9000000 := by decide +kernel

end Poupool.C20
