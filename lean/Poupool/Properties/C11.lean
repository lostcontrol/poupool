/-
  C11  Filtration accounting and counters survive a restart.
  Model: Model/Eco.lean (EcoMode.update persistence rule, Filtration.duration / restore_duration, dispatcher
  `once`, Counter); helper lemmas: Proofs/EcoPersist.lean.
-/
import Poupool.Proofs.EcoPersist

namespace Poupool.Eco

/-- Persistence rule.  Along ANY sequence of polls (`update(now, factor)`, factor in [0, 1], non-decreasing
instants, any gaps) and state changes (`clear`) of one process, at every instant the accounted duration exceeds the
value last published on `/status/filtration/duration` by at most the save interval, 300 s — whatever the poll
period: what is lost by a kill at any point is at most 300 s of ACCOUNTED time (plus the time since the last poll,
≤ one poll + eps, that was not accounted yet: C10_loop_accounting). -/
theorem C11_persist_bound (ops : List POp) (s : PSt) (h : PInv s) (hok : opsOK s.tnow ops) :
    (ops.foldl PSt.step s).saved ≤ (ops.foldl PSt.step s).e.filtration.duration
    ∧ (ops.foldl PSt.step s).e.filtration.duration - (ops.foldl PSt.step s).saved ≤ 300 * US := by
  have hinv := prun_inv h hok
  have hsv := cfg_save
  have hU : US = 1000000 := rfl
  obtain ⟨h1, h2, h3, h4, h5⟩ := hinv
  constructor <;> omega

/-- a fresh process satisfies the hypothesis (`lastSave` = start time, nothing accounted, nothing published yet:
the retained value is the one that was restored) -/
example : PInv { e := (EcoMode.init 1000).restore 1234, saved := 1234 * US, tnow := 1000 } :=
  ⟨by decide, (by intro l h; cases h), by decide, by decide, by decide⟩

example : opsOK 1000 [.update 2000 0 1, .clear, .update 10002000 1 1, .update 20002000 1 2] := by
  simp [opsOK]

/-- The restored value: the payload is `round(duration.total_seconds())`, the restore `timedelta(seconds=payload)`:
within half a second of the published duration.  Together with `C11_persist_bound`:
restored ∈ [accounted − 300.5 s, accounted + 0.5 s]. -/
theorem C11_restore_rounding (saved : Int) :
    2 * (roundSeconds saved * US) ≤ 2 * saved + US ∧ 2 * saved - US ≤ 2 * (roundSeconds saved * US) := by
  have h := divNearest_bounds saved US (by decide)
  unfold roundSeconds
  rw [Int.mul_comm (divNearest saved US) US]
  exact h

example : roundSeconds 1500000 = 2 ∧ roundSeconds 2500000 = 2 ∧ roundSeconds 2500001 = 3 := by decide

/-- Settings and the restore in ANY order (any list of messages, repetitions included): the accounted duration
afterwards is the value of the last restore — `Filtration.duration()` puts today's elapsed time back, the other
settings do not touch it. -/
theorem C11_restore_any_order (ms : List SMsg) (e : EcoMode) (v : Int) (hm : SMsg.restore v ∈ ms)
    (hall : ∀ w, SMsg.restore w ∈ ms → w = v) :
    (ms.foldl applyMsg e).filtration.duration = v * US :=
  foldl_restore hall (Or.inr hm)

example : ([SMsg.restore 1234, .daily 36000, .period 3].foldl applyMsg (EcoMode.init 0)).filtration.duration = 1234 * US
    ∧ ([SMsg.daily 36000, .period 3, .restore 1234].foldl applyMsg (EcoMode.init 0)).filtration.duration = 1234 * US
    ∧ ([SMsg.daily 36000, .restore 1234, .tank 1 10, .daily 7200].foldl applyMsg (EcoMode.init 0)).filtration.duration = 1234 * US := by
  decide

/-- … and the daily duration, period … end up the same as well (last value wins), so the state after the burst
does not depend on the order; here for the two messages that interact. -/
theorem C11_daily_restore_commute (e : EcoMode) (d v : Int) :
    (e.fltDuration d).restore v = (e.restore v).fltDuration d := by
  simp only [EcoMode.fltDuration_eq cfg_keepElapsed]
  rfl

example : ((EcoMode.init 0).fltDuration 7200).restore 60 = ((EcoMode.init 0).restore 60).fltDuration 7200 := by decide

/-- The dispatcher's `once` rule: in one process the handler of `/status/filtration/duration`,
`/status/heating/total_seconds`, `/status/water/counter` is called at most once, whatever is delivered. -/
theorem C11_once_at_most_once (ts : List Topic) :
    Disp.applied .filtrationDuration ⟨[]⟩ ts ≤ 1 ∧ Disp.applied .heatingTotal ⟨[]⟩ ts ≤ 1
    ∧ Disp.applied .waterCounter ⟨[]⟩ ts ≤ 1 :=
  ⟨applied_le_one (by decide) ts _, applied_le_one (by decide) ts _, applied_le_one (by decide) ts _⟩

example : Disp.applied .filtrationDuration ⟨[]⟩ [.filtrationDuration, .dailySetting, .filtrationDuration, .filtrationDuration] = 1
    ∧ Disp.applied .dailySetting ⟨[]⟩ [.dailySetting, .dailySetting] = 2 := by decide

/-- Heating total (`q = US`) and water counter (`q = 1`): across any number of kill / restart cycles the published
values never decrease, PROVIDED the restore precedes the first post-restart publish (`restoreFirst`). -/
theorem C11_counter_monotone (q : Int) (hq : 0 < q) (evs : List CEv) (hrf : restoreFirst false evs = true)
    (hpos : ∀ d, CEv.add d ∈ evs → 0 ≤ d) :
    nonDecreasing (Counter.run { q := q, total := 0, retained := none, pubs := [] } evs).pubs = true :=
  counter_run false ⟨hq, rfl, rfl, fun _ v hv => by cases hv⟩ hrf hpos

example : (Counter.run { q := US, total := 0, retained := none, pubs := [] }
    [.add 5400000, .kill, .restore, .add 400000, .add 700000, .kill, .kill, .restore, .add 1]).pubs = [6, 6, 5, 5]
    ∧ restoreFirst false [.add 5400000, .kill, .restore, .add 400000, .add 700000, .kill, .kill, .restore, .add 1] = true := by
  decide

/-- K3 witness: without that hypothesis the counter DOES decrease — the process restarts, accumulates and publishes
before the retained value is applied (then the stale restore even discards what was counted since). -/
theorem C11_counter_decrease_counterexample :
    nonDecreasing (Counter.run { q := US, total := 0, retained := none, pubs := [] }
      [.add 7200000000, .kill, .add 60000000, .restore]).pubs = false
    ∧ (Counter.run { q := US, total := 0, retained := none, pubs := [] }
      [.add 7200000000, .kill, .add 60000000, .restore]).pubs = [60, 7200] := by
  decide

end Poupool.Eco
