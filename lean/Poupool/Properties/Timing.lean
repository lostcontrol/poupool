import Poupool.Proofs.Timing.Checks
/-!
# Timed theorems (C05–C08, C13, C17): time-limited phases end on time, minimum phases last, polls keep their period

For every controller, `<actor> lag` is its timed model (`Model/Timed.lean`) over the regenerated timer-view descriptor and
the regenerated duration table `<actor>DurAt`; `lag` (half seconds) is the scheduling assumption the property statements
make ("+ 2 s"): the delayed call carrying the current token is delivered no later than `lag` after it is due, and nothing
else is handled later than that.  All statements hold for EVERY timed run: any messages at any instants, any order of a
message and a timer expiry, bursts, any settings.  Time unit: half seconds.

* `*_end_on_time` (also the first part of `heating_recovering`, `swim_wintering_stir`): entered at `ts0.now` from outside, and for as long as the phase goes on (`Stay`: any events that keep
  the controller in the phase, except the listed restart messages), the clock is at most entry + duration + lag.  For a
  duration setting the bound is the value the entering handler read (`e.settings`).
* `*_last` and `*_exits` (also the other parts of `heating_recovering`, `swim_wintering_stir`): when the timeout ends the phase – after any events inside it (`Within`) – at least the duration has elapsed
  since the entry, and only the timeout or a listed escape message ends it.
* `*_polls`: whenever the poll carries the current token in its phase, it was armed with at most the period, so it is
  delivered no later than `armedAt + period + lag` (that it IS armed, or a self-message ending the phase is pending, is
  `C08.timerOK`).
-/
namespace Poupool.Timing
open Poupool.Gen Poupool.Timed

section
open Filtration

/-- **C06/C08/C17**: heating delays, wintering stir and the eco computation end on time -/
theorem filtration_const_end_on_time (lag : Nat) : ∀ p ∈ filtrationConst, ∀ {ts ts0 ts1 : TSt} {e : TEv},
    TReach (filtration lag) ts → inP p.1 ts.s = false → TStep (filtration lag) ts e ts0 → inP p.1 ts0.s = true →
    Stay (filtration lag) p.1 ts0 ts1 → ts1.now ≤ ts0.now + p.2 + lag := by
  intro p hp
  obtain ⟨h, _⟩ := filtration_checks lag
  obtain ⟨hb, hl, ha, he, hd⟩ := h.hyps hp
  exact phase_ends_on_time (filtration_cert lag) hb hl ha he hd

/-- **C07/C08**: boost, backwash and rinse end on time: the bound is the value of the duration setting read at the entry -/
theorem filtration_setting_end_on_time (lag : Nat) : ∀ p ∈ filtrationSetting, ∀ {ts ts0 ts1 : TSt} {e : TEv},
    TReach (filtration lag) ts → inP p.1 ts.s = false → TStep (filtration lag) ts e ts0 → inP p.1 ts0.s = true →
    Stay (filtration lag) p.1 ts0 ts1 → ts1.now ≤ ts0.now + e.settings p.2 + lag := by
  intro p hp
  obtain ⟨_, h, _⟩ := filtration_checks lag
  obtain ⟨hb, hl, ha, he, hd⟩ := h.hyps hp
  exact phase_ends_on_time_setting (filtration_cert lag) hb hl ha he hd

/-- **C06 (post-run flow), C17 (stir duration)**: these phases last at least their configured delay when their timeout
    ends them … -/
theorem filtration_const_last (lag : Nat) : ∀ p ∈ filtrationConst.take 4, ∀ {ts ts0 ts1 ts2 : TSt} {e : TEv} {σf : String → Nat},
    TReach (filtration lag) ts → inP p.1 ts.s = false → TStep (filtration lag) ts e ts0 → inP p.1 ts0.s = true →
    Within (filtration lag) p.1 ts0 ts1 → TStep (filtration lag) ts1 (.fire σf) ts2 → ts0.now + p.2 ≤ ts2.now := by
  intro p hp
  obtain ⟨_, _, h, _⟩ := filtration_checks lag
  obtain ⟨ha, he, _, hd⟩ := h.hyps hp
  exact phase_lasts (filtration_cert lag) ha he hd

/-- … and nothing but the timeout or a listed escape message (halt; for the delays before opening also Heating's
    `heating_delay`, which leads to the longer delay before eco, see `heating_delay_goes_to_delay_none`) ends them -/
theorem filtration_const_exits (lag : Nat) : ∀ p ∈ filtrationConst.take 4, ∀ {ts ts' : TSt} {e : TEv},
    TReach (filtration lag) ts → inP p.1 ts.s = true → TStep (filtration lag) ts e ts' → inP p.1 ts'.s = false →
    (∃ σ, e = .fire σ) ∨ ∃ m ∈ p.1.escape, ∃ σ, e = .plain m σ := by
  intro p hp
  obtain ⟨_, _, h, _⟩ := filtration_checks lag
  obtain ⟨_, _, ho, _⟩ := h.hyps hp
  exact exit_by_timeout_or_escape (filtration_cert lag) ho

theorem heating_delay_goes_to_delay_none :
    (allStates filtrationTimerReach fun s => !([leaf_heating_delay_standby, leaf_heating_delay_overflow].contains s.leaf) ||
      (step filtrationTimerDesc s (.plain m_heating_delay)).all fun s' => s'.leaf == leaf_heating_delay_none) = true := by
  decide +kernel

/-- **C08**: every Filtration poll keeps its period -/
theorem filtration_polls (lag : Nat) : ∀ p ∈ filtrationPolls, ∀ {ts : TSt} {t : MsgId},
    TReach (filtration lag) ts → inP p.1 ts.s = true → t ∈ p.1.t → ts.s.armed = some t →
    ts.armedDur ≤ p.2 ∧ ts.now ≤ ts.armedAt + p.2 + lag := by
  intro p hp
  obtain ⟨_, _, _, h, _⟩ := filtration_checks lag
  obtain ⟨he, hd⟩ := h.hyps hp
  exact poll_keeps_period (filtration_cert lag) he hd

end

/-- **C06 (rest period), C08**: `recovering` ends on time, lasts at least the recover period when its timeout ends it, and is
    left only by that timeout or by halt -/
theorem heating_recovering (lag : Nat) : ∀ p ∈ heatingConst,
    (∀ {ts ts0 ts1 : TSt} {e : TEv}, TReach (heating lag) ts → inP p.1 ts.s = false → TStep (heating lag) ts e ts0 →
      inP p.1 ts0.s = true → Stay (heating lag) p.1 ts0 ts1 → ts1.now ≤ ts0.now + p.2 + lag) ∧
    (∀ {ts ts0 ts1 ts2 : TSt} {e : TEv} {σf : String → Nat}, TReach (heating lag) ts → inP p.1 ts.s = false →
      TStep (heating lag) ts e ts0 → inP p.1 ts0.s = true → Within (heating lag) p.1 ts0 ts1 →
      TStep (heating lag) ts1 (.fire σf) ts2 → ts0.now + p.2 ≤ ts2.now) ∧
    (∀ {ts ts' : TSt} {e : TEv}, TReach (heating lag) ts → inP p.1 ts.s = true → TStep (heating lag) ts e ts' →
      inP p.1 ts'.s = false → (∃ σ, e = .fire σ) ∨ ∃ m ∈ p.1.escape, ∃ σ, e = .plain m σ) := by
  intro p hp
  obtain ⟨ht, hm, _⟩ := heating_checks lag
  obtain ⟨hb, hl, ha, he, hd⟩ := ht.hyps hp
  obtain ⟨_, _, ho, hg⟩ := hm.hyps hp
  exact ⟨phase_ends_on_time (heating_cert lag) hb hl ha he hd, phase_lasts (heating_cert lag) ha he hg,
    exit_by_timeout_or_escape (heating_cert lag) ho⟩

theorem heating_polls (lag : Nat) : ∀ p ∈ heatingPolls, ∀ {ts : TSt} {t : MsgId},
    TReach (heating lag) ts → inP p.1 ts.s = true → t ∈ p.1.t → ts.s.armed = some t →
    ts.armedDur ≤ p.2 ∧ ts.now ≤ ts.armedAt + p.2 + lag := by
  intro p hp
  obtain ⟨_, _, h⟩ := heating_checks lag
  obtain ⟨he, hd⟩ := h.hyps hp
  exact poll_keeps_period (heating_cert lag) he hd

/-- **C08**: the disinfection start delay and the treatment pause end on time -/
theorem disinfection_end_on_time (lag : Nat) : ∀ p ∈ disinfectionConst, ∀ {ts ts0 ts1 : TSt} {e : TEv},
    TReach (disinfection lag) ts → inP p.1 ts.s = false → TStep (disinfection lag) ts e ts0 → inP p.1 ts0.s = true →
    Stay (disinfection lag) p.1 ts0 ts1 → ts1.now ≤ ts0.now + p.2 + lag := by
  intro p hp
  obtain ⟨hb, hl, ha, he, hd⟩ := (disinfection_checks lag).hyps hp
  exact phase_ends_on_time (disinfection_cert lag) hb hl ha he hd

/-- **C17/C08**: the counter-current wintering stir ends on time and lasts its configured duration -/
theorem swim_wintering_stir (lag : Nat) : ∀ p ∈ swimConst,
    (∀ {ts ts0 ts1 : TSt} {e : TEv}, TReach (swim lag) ts → inP p.1 ts.s = false → TStep (swim lag) ts e ts0 →
      inP p.1 ts0.s = true → Stay (swim lag) p.1 ts0 ts1 → ts1.now ≤ ts0.now + p.2 + lag) ∧
    (∀ {ts ts0 ts1 ts2 : TSt} {e : TEv} {σf : String → Nat}, TReach (swim lag) ts → inP p.1 ts.s = false →
      TStep (swim lag) ts e ts0 → inP p.1 ts0.s = true → Within (swim lag) p.1 ts0 ts1 →
      TStep (swim lag) ts1 (.fire σf) ts2 → ts0.now + p.2 ≤ ts2.now) := by
  intro p hp
  obtain ⟨ht, hm, _⟩ := swim_checks lag
  obtain ⟨hb, hl, ha, he, hd⟩ := ht.hyps hp
  obtain ⟨_, _, _, hg⟩ := hm.hyps hp
  exact ⟨phase_ends_on_time (swim_cert lag) hb hl ha he hd, phase_lasts (swim_cert lag) ha he hg⟩

theorem swim_polls (lag : Nat) : ∀ p ∈ swimPolls, ∀ {ts : TSt} {t : MsgId},
    TReach (swim lag) ts → inP p.1 ts.s = true → t ∈ p.1.t → ts.s.armed = some t →
    ts.armedDur ≤ p.2 ∧ ts.now ≤ ts.armedAt + p.2 + lag := by
  intro p hp
  obtain ⟨_, _, h, _⟩ := swim_checks lag
  obtain ⟨he, hd⟩ := h.hyps hp
  exact poll_keeps_period (swim_cert lag) he hd

/-- **C04/C05/C08**: the tank level is polled every 5 s (fill, low) resp. 10 s (normal, high) -/
theorem tank_polls (lag : Nat) : ∀ p ∈ tankPolls, ∀ {ts : TSt} {t : MsgId},
    TReach (tank lag) ts → inP p.1 ts.s = true → t ∈ p.1.t → ts.s.armed = some t →
    ts.armedDur ≤ p.2 ∧ ts.now ≤ ts.armedAt + p.2 + lag := by
  intro p hp
  obtain ⟨he, hd⟩ := (tank_checks lag).1.hyps hp
  exact poll_keeps_period (tank_cert lag) he hd


/-! ## Polling phases with a time limit (C05 (iii), C17 periods)

`StayPoll L`: the controller stays in the phase and every poll delivered during the stay fired no later than `L` after the
entry.  That is what the decision theorems give: a tank poll that finds more than 2 h (fill) / 6 h (low) in the phase
requests the emergency stop instead of re-arming (`C05.limits`, compared with the real methods on boundary instants); a
wintering poll that finds the period elapsed while it is cold or the temperature unknown requests the stir
(`C17` policy theorems on `Model/Winter.lean`).  Conclusion: while the poll is the armed call the stay has lasted at
most L + one poll period + lag – the mains valve is open for at most the limit + 5 s + lag; the pause between two stirs is
at most the period + 2 min + lag while it is cold. -/
theorem tank_limit_phases (lag : Nat) : ∀ p ∈ tankPolls.take 2, ∀ (L : Nat) {ts tsE ts1 : TSt} {e : TEv} {t : MsgId},
    TReach (tank lag) ts → inP p.1 ts.s = false → TStep (tank lag) ts e tsE → inP p.1 tsE.s = true →
    StayPoll (tank lag) p.1 L tsE ts1 → t ∈ p.1.t → ts1.s.armed = some t → ts1.now ≤ tsE.now + L + p.2 + lag := by
  intro p hp L
  obtain ⟨hb, he, hd, hnr⟩ := (tank_checks lag).2.hyps hp
  exact fun hr hout hstep hin hstay ht harm => staypoll_time (tank_cert lag) hb he hd hnr hr hout hstep hin hstay ht harm

theorem filtration_wintering_pause (lag : Nat) (L : Nat) {ts tsE ts1 : TSt} {e : TEv} {t : MsgId}
    (hr : TReach (filtration lag) ts) (hout : inP filtrationPolls[7].1 ts.s = false) (hstep : TStep (filtration lag) ts e tsE)
    (hin : inP filtrationPolls[7].1 tsE.s = true) (hstay : StayPoll (filtration lag) filtrationPolls[7].1 L tsE ts1)
    (ht : t ∈ filtrationPolls[7].1.t) (harm : ts1.s.armed = some t) : ts1.now ≤ tsE.now + L + 240 + lag := by
  obtain ⟨_, _, _, _, h⟩ := filtration_checks lag
  obtain ⟨hb, he, hd, hnr⟩ := h.hyps (List.mem_singleton_self _)
  exact staypoll_time (filtration_cert lag) hb he hd hnr hr hout hstep hin hstay ht harm

theorem swim_wintering_pause (lag : Nat) (L : Nat) {ts tsE ts1 : TSt} {e : TEv} {t : MsgId}
    (hr : TReach (swim lag) ts) (hout : inP swimPolls[2].1 ts.s = false) (hstep : TStep (swim lag) ts e tsE)
    (hin : inP swimPolls[2].1 tsE.s = true) (hstay : StayPoll (swim lag) swimPolls[2].1 L tsE ts1)
    (ht : t ∈ swimPolls[2].1.t) (harm : ts1.s.armed = some t) : ts1.now ≤ tsE.now + L + 240 + lag := by
  obtain ⟨_, _, _, h⟩ := swim_checks lag
  obtain ⟨hb, he, hd, hnr⟩ := h.hyps (List.mem_cons_of_mem _ (List.mem_singleton_self _))
  exact staypoll_time (swim_cert lag) hb he hd hnr hr hout hstep hin hstay ht harm

/-- C13 "in timed mode it stops by itself": the `timed` phase of Swim, entered at `tsE.now`.  If the polls delivered during the
    stay that kept the phase fired no later than `L` after the entry — which the decision theorems give with `L` = lateness of
    the first poll + the configured run time: `C13.timed_stops` (a poll that finds the accumulated time ≥ the delay tells `halt`
    instead of re-arming), tied to the code by `DecisionsTie.swim_timed_poll` — then, for as long as the poll is the armed call,
    the clock is at most entry + L + one poll (1 s) + lag: nothing but the poll itself touches the delayed call in that phase
    (kernel-evaluated `noRearm` over the timer-view certificate), whatever commands and settings arrive meanwhile. -/
theorem swim_timed_run (lag : Nat) (L : Nat) {ts tsE ts1 : TSt} {e : TEv} {t : MsgId}
    (hr : TReach (swim lag) ts) (hout : inP swimPolls[0].1 ts.s = false) (hstep : TStep (swim lag) ts e tsE)
    (hin : inP swimPolls[0].1 tsE.s = true) (hstay : StayPoll (swim lag) swimPolls[0].1 L tsE ts1)
    (ht : t ∈ swimPolls[0].1.t) (harm : ts1.s.armed = some t) : ts1.now ≤ tsE.now + L + 2 + lag := by
  obtain ⟨_, _, _, h⟩ := swim_checks lag
  obtain ⟨hb, he, hd, hnr⟩ := h.hyps List.mem_cons_self
  exact staypoll_time (swim_cert lag) hb he hd hnr hr hout hstep hin hstay ht harm

example : swimPolls[0].1.P = [Swim.leaf_timed] ∧ swimPolls[0].2 = 2 := by decide

/-- the phases meant above are the tank's `fill` and `low`, and the two `wintering_waiting` phases, with 5 s resp. 2 min polls -/
example : (tankPolls.take 2).map (fun p => (p.1.P, p.2)) = [([Tank.leaf_fill], 10), ([Tank.leaf_low], 10)] ∧
    filtrationPolls[7].1.P = [Filtration.leaf_wintering_waiting] ∧ filtrationPolls[7].2 = 240 ∧
    swimPolls[2].1.P = [Swim.leaf_wintering_waiting] ∧ swimPolls[2].2 = 240 := by decide

/-! ## Non-vacuity: a concrete timed run of Heating enters `recovering` from outside and stays there

halt --wait@0--> waiting --heat@1--> heating --wait@2--> recovering (recover_done armed at 2 with 600) --enable@500-->
recovering: the hypotheses of `heating_recovering` are met, its bound 500 ≤ 2 + 600 + lag is not trivial. -/
section
def σ0 : String → Nat := fun _ => 0
def h0 : TSt := tinit (heating 2)
def h1 : TSt := { s := { leaf := Heating.leaf_waiting, vars := [], armed := some Heating.m_do_repeat_waiting, pend := [], bad := false }, now := 0, armedAt := 0, armedDur := 0, touched := true }
def h2 : TSt := { s := { leaf := Heating.leaf_heating, vars := [], armed := some Heating.m_do_repeat_heating, pend := [], bad := false }, now := 1, armedAt := 1, armedDur := 0, touched := true }
def h3 : TSt := { s := { leaf := Heating.leaf_recovering, vars := [], armed := some Heating.m_recover_done, pend := [], bad := false }, now := 2, armedAt := 2, armedDur := 600, touched := true }
def h4 : TSt := { h3 with now := 500, touched := false }

example : ∃ ts ts0 ts1 e, TReach (heating 2) ts ∧ inP heatingConst[0].1 ts.s = false ∧ TStep (heating 2) ts e ts0 ∧
    inP heatingConst[0].1 ts0.s = true ∧ Stay (heating 2) heatingConst[0].1 ts0 ts1 ∧ ts1.now = 500 := by
  have s1 : TStep (heating 2) h0 (.plain Heating.m_wait σ0) h1 :=
    TStep.plain Heating.m_wait 0 0 σ0 0 (by decide) (by decide) (by decide) (by decide +kernel) (by decide)
  have s2 : TStep (heating 2) h1 (.plain Heating.m_heat σ0) h2 :=
    TStep.plain Heating.m_heat 1 0 σ0 0 (by decide) (by decide) (by decide) (by decide +kernel) (by decide)
  have s3 : TStep (heating 2) h2 (.plain Heating.m_wait σ0) h3 :=
    TStep.plain Heating.m_wait 2 600 σ0 0 (by decide) (by decide) (by decide) (by decide +kernel) (by decide)
  have s4 : TStep (heating 2) h3 (.plain Heating.m_enable σ0) h4 :=
    TStep.plain Heating.m_enable 500 0 σ0 0 (by decide) (by decide) (by decide) (by decide +kernel) (by decide)
  exact ⟨h2, h3, h4, _, TReach.step _ (TReach.step _ TReach.init s1) s2, by decide, s3, by decide,
    Stay.step (Stay.refl _) s4 (fun _ _ _ => List.not_mem_nil) (by decide), rfl⟩
end

end Poupool.Timing
