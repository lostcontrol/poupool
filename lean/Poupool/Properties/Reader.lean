import Poupool.Proofs.Reader
/-!
# Sensor reader (controller/sensor.py `BaseReader` / `MovingAverage`): the averaging windows the thermostats decide on

On the model (Model/Reader.lean; differential with the REAL `BaseReader.do_read` in checks/reader_common.py), for EVERY
window length `maxlen`, number of sensors `n`, sequence of reads (each read a list of optional readings, possibly shorter
than `n`: a missing trailing position is a missing reading) and sensor `i < n`:

* `window_spec`: the window of sensor `i` is exactly the last `maxlen` VALID readings of sensor `i` – whatever the other
  sensors delivered.  (Refinement theorem: `run` is the implementation-shaped fold, `lastN ∘ valid` the specification.)
* `window_bounded`: there are always `n` windows and none is longer than `maxlen`.
* `missing_reading_is_local` (+ `_general`): changing (in particular losing) a reading of ANOTHER sensor in any read
  does not change sensor `i`'s window.
* `fresh_reading_is_seen`: a reading delivered in the last read is the newest element of the window.
* `mean_within_bounds`: the mean (exact fraction sum/count) of a non-empty window is over `count = length > 0` elements
  and lies between any lower and any upper bound of the window's elements.
* `mean_none_iff_no_valid_reading`: the mean is unknown iff the sensor never delivered a valid reading.
-/
namespace Poupool.ReaderProps
open Poupool.Reader

theorem window_spec (maxlen n : Nat) (reads : List (List (Option Int))) (i : Nat) (hi : i < n) :
    (run maxlen n reads).getD i [] = lastN maxlen (valid i reads) := by
  have h0 : (init n).getD i [] = lastN maxlen [] := by
    simp [init, lastN, List.getD_eq_getElem?_getD, hi]
  rw [run, foldl_doRead_getD maxlen reads (init n) i (by simpa [init] using hi), h0, foldl_push_lastN, List.nil_append]

-- sensor 0 loses a reading, the row of the 3rd read is short (sensor 1 missing), the window of sensor 1 overflows
example : (run 2 2 [[some 1, none], [some 2, some 5], [none], [some 4, some 7], [some 9, some 8]]).getD 1 [] = [7, 8]
    ∧ valid 1 [[some 1, none], [some 2, some 5], [none], [some 4, some 7], [some 9, some 8]] = [5, 7, 8] := by decide

theorem window_bounded (maxlen n : Nat) (reads : List (List (Option Int))) :
    (run maxlen n reads).length = n ∧ ∀ w ∈ run maxlen n reads, w.length ≤ maxlen := by
  refine ⟨run_length maxlen n reads, fun w hw => ?_⟩
  obtain ⟨i, hi, rfl⟩ := List.mem_iff_getElem.mp hw
  have h := window_spec maxlen n reads i (run_length maxlen n reads ▸ hi)
  rw [List.getD_eq_getElem?_getD, List.getElem?_eq_getElem hi, Option.getD_some] at h
  rw [h, lastN_length]
  exact Nat.min_le_left _ _

example : (run 2 3 [[some 1, some 1, some 1], [some 2, none, some 2], [some 3, some 3], [some 4]]) = [[3, 4], [1, 3], [1, 2]] := by
  decide

theorem missing_reading_is_local (maxlen n : Nat) (reads : List (List (Option Int))) (i j k : Nat) (v : Option Int)
    (hi : i < n) (hij : j ≠ i) :
    (run maxlen n (setReading k j v reads)).getD i [] = (run maxlen n reads).getD i [] := by
  rw [window_spec maxlen n _ i hi, window_spec maxlen n _ i hi, valid_setReading i j k v reads hij]

example : setReading 1 0 none [[some 1, some 5], [some 2, some 6]] = [[some 1, some 5], [none, some 6]]
    ∧ (run 3 2 [[some 1, some 5], [none, some 6]]).getD 1 [] = [5, 6]
    ∧ (run 3 2 [[some 1, some 5], [none, some 6]]).getD 0 [] ≠ (run 3 2 [[some 1, some 5], [some 2, some 6]]).getD 0 [] := by
  decide

/-- general form: the two read sequences agree on column `i`, rows of any length, the other columns arbitrary -/
theorem missing_reading_is_local_general (maxlen n : Nat) (reads reads' : List (List (Option Int))) (i : Nat) (hi : i < n)
    (hlen : reads.length = reads'.length)
    (hcol : ∀ k, (reads.getD k []).getD i none = (reads'.getD k []).getD i none) :
    (run maxlen n reads').getD i [] = (run maxlen n reads).getD i [] := by
  rw [window_spec maxlen n _ i hi, window_spec maxlen n _ i hi, valid_congr i reads reads' hlen hcol]

example : (run 2 2 [[none, some 5], [some 3, some 6, some 0], [none, some 7]]).getD 1 []
    = (run 2 2 [[some 1, some 5], [none, some 6], [some 9, some 7]]).getD 1 [] := by decide

theorem fresh_reading_is_seen (maxlen n : Nat) (reads : List (List (Option Int))) (r : List (Option Int)) (i : Nat) (x : Int)
    (hi : i < n) (hm : 0 < maxlen) (hx : r.getD i none = some x) :
    ((run maxlen n (reads ++ [r])).getD i []).getLast? = some x := by
  rw [window_spec maxlen n _ i hi, valid_append, valid_cons, hx]
  exact lastN_append_singleton_getLast? maxlen hm _ x

example : ((run 2 2 ([[some 1, some 5], [some 2, none], [some 3, none]] ++ [[none, some 7]])).getD 1 []).getLast? = some 7
    ∧ ([none, some (7 : Int)] : List (Option Int)).getD 1 none = some 7 := by decide

theorem mean_within_bounds (w : List Int) (s : Int) (k : Nat) (h : mean w = some (s, k)) :
    k = w.length ∧ 0 < k ∧ s = w.sum ∧
    (∀ lo : Int, (∀ v ∈ w, lo ≤ v) → lo * (k : Int) ≤ s) ∧
    (∀ hi : Int, (∀ v ∈ w, v ≤ hi) → s ≤ hi * (k : Int)) := by
  obtain ⟨rfl, rfl, hpos⟩ := mean_eq_some h
  exact ⟨rfl, hpos, rfl, sum_ge_of_forall_ge w, sum_le_of_forall_le w⟩

example : mean [2, 4, 9] = some (15, 3) ∧ (∀ v ∈ ([2, 4, 9] : List Int), 2 ≤ v) ∧ (∀ v ∈ ([2, 4, 9] : List Int), v ≤ 9)
    ∧ (2 : Int) * 3 ≤ 15 ∧ (15 : Int) ≤ 9 * 3 := by decide

theorem mean_none_iff_no_valid_reading (maxlen n : Nat) (reads : List (List (Option Int))) (i : Nat)
    (hi : i < n) (hm : 0 < maxlen) :
    mean ((run maxlen n reads).getD i []) = none ↔ valid i reads = [] := by
  rw [window_spec maxlen n _ i hi, mean_eq_none_iff, lastN_eq_nil_iff maxlen hm]

example : mean ((run 5 2 [[some 1, none], [some 2], [some 3, none]]).getD 1 []) = none
    ∧ valid 1 [[some 1, none], [some 2], [some 3, none]] = []
    ∧ mean ((run 5 2 [[some 1, none], [some 2], [some 3, none]]).getD 0 []) = some (6, 3) := by decide

/-- with `maxlen = 0` the hypothesis `0 < maxlen` of the two theorems above is necessary: nothing is ever kept -/
theorem zero_window_keeps_nothing : (run 0 1 [[some 1]]).getD 0 [] = [] ∧ valid 0 [[some (1 : Int)]] = [1] := by decide

example : mean ((run 0 1 [[some 1]]).getD 0 []) = none := by decide

end Poupool.ReaderProps

-- axioms audited (propext, Quot.sound, Classical.choice): see vlib.lean.check_theorems
