import Poupool.Model.Main
import Poupool.Generated.Main
/-!
# C18  A dying controller or a termination signal switches everything off

The supervision loop, exit status and `finally:` block are read from poupool.py on every run (Generated/Main.lean).

* `loop_shape`: the loop runs `while running and all(actor.is_alive() ...)` over filtration, tank, disinfection and
  heating with a 0.5 s sleep; after it Filtration is asked to halt if alive; the exit status is `1 if running else 0`
  (non-zero exactly when the loop was left because a supervised controller died) and `sys.exit(main(...))` is inside the
  `try`, so the `finally:` block runs on every path (normal return, SystemExit, exception in setup).
* `shutdown_switches_everything_off`: for the generated operation list and ANY behaviour of the still running controllers
  between the operations: after the block no registered pump or valve is energised, the stoppable devices (cover) have
  been stopped and no controller is left that could energise anything – `stop_all()` comes first and blocks.
* `every_output_is_registered`: every output device constructed by setup_gpio/setup_rpi/setup_fake is registered as pump
  or valve (so `off()` reaches it).
* `swim_off_deenergises`: SwimPumpDevice.off() de-energises the relay for every cached speed and every DAC fault pattern.
Partial: OS signal delivery, sys.exit and interpreter shutdown are not modelled; termination of `stop_all()` uses C09.
-/
namespace Poupool.C18
open Poupool.Main Poupool.Gen.Main

theorem loop_shape :
    loopCondition = "running and all((actor.is_alive() for actor in main_actors))" ∧
    supervised = ["filtration", "tank", "disinfection", "heating"] ∧
    loopBody = ["time.sleep(0.5)"] ∧
    returnExpr = "1 if running else 0" ∧
    afterLoop = ["if filtration.actor_ref.is_alive():\n    filtration.halt()", "return 1 if running else 0"] ∧
    exitWrapsMain = true := by decide +kernel

theorem finally_shape : opsOK (finallyOps.map parseOp) = true := by decide +kernel

theorem every_output_is_registered : unregisteredOutputs = [] := by decide +kernel

/-- the output names of config.ini [pins], typed here (the regenerated comparison of the registrations with the file is
    `every_output_is_registered`) -/
def outputs : List String :=
  ["variable", "boost", "swim", "ph", "cl", "gravity", "backwash", "tank", "drain", "main", "heating", "light"]

theorem outputs_registered : ∀ n ∈ outputs, n ∈ pumps ∨ n ∈ valves := by decide +kernel

theorem shutdown_switches_everything_off (env : List (List String)) (w : World) :
    let w' := shutdown pumps valves (finallyOps.map parseOp) env w
    (∀ n ∈ outputs, n ∉ w'.on) ∧ w'.coverMoving = false ∧ w'.actorsRunning = false :=
  shutdown_all_off pumps valves _ finally_shape env w outputs outputs_registered

/-- non-vacuity: everything energised, controllers running and still switching things on during shutdown -/
example : (shutdown pumps valves (finallyOps.map parseOp) [["ph", "swim"], ["drain"], ["main"]]
    { on := outputs, actorsRunning := true, coverMoving := true }).on = [] := by decide +kernel

end Poupool.C18
