import Poupool.Generated.ActorCerts
import Poupool.Proofs.ActorLib
import Poupool.Model.Devices
/-!
# C01  Halt de-energises every water, chemical and heat actuator

Statement (properties.jsonl): whenever the controller reports mode halt and pending work has settled, the
circulation, boost, counter-current and both dosing pumps are off, the heat-pump enable is off and the gravity,
tank, drain and backwash valves are closed; they stay that way until a new mode request is accepted.

Formal reading.  All theorems quantify over EVERY message sequence (any length, any interleaving, any sensor
value / fault pattern: everything not modelled is nondeterministic) of the models regenerated from the source.

* `filtration_halt` – Filtration's own six outputs are off in phase `halt` and it *knows* Disinfection, Heating and
  Swim halted (it told them `halt` last, or they answered `is_halt() = True`).  Being an invariant of all reachable
  states it also covers "stays that way until the next accepted mode request".
* `swim_off_when_halted`, `heating_off_unless_heating_or_forcing`, `disinfection_cancels_pwm_when_halted` – each slave's output is
  off in its halt / off phases (outputs are functions of the phase).
* `glue_*` – FIFO glue (Model/Glue.lean): master knows X halted ∧ nothing of the master waits in X's inbox
  (= settled) ⇒ X is in its off phase, for every interleaving with third-party messages and X's own timers.
* `pwm_*` – the dosing pump relay is on only while the PWM loop is armed; `do_cancel` switches it off and disarms.
-/
namespace Poupool.C01
open Poupool.Gen Poupool.Glue

def filtrationHaltOK (s : St) : Bool :=
  !s.bad &&
  (s.leaf != Filtration.leaf_halt ||
    (s.v Filtration.v_dev_variable == 0 && s.v Filtration.v_dev_boost == 0 && s.v Filtration.v_dev_gravity == 0 &&
     s.v Filtration.v_dev_tank == 0 && s.v Filtration.v_dev_drain == 0 && s.v Filtration.v_dev_backwash == 0 &&
     s.v Filtration.v_rq_Disinfection == N.halt_ && s.v Filtration.v_rq_Heating == N.halt_ &&
     s.v Filtration.v_ks_Heating == 1 && s.v Filtration.v_rq_Swim == N.halt_))

theorem filtration_halt : ∀ s, Reach filtrationSafetyDesc s → filtrationHaltOK s = true :=
  invariant_of_closed _ _ _ Cert.filtrationSafety_closed (by decide +kernel)

/-- non-vacuity: the halt phase with everything off is reachable (it is the initial state) -/
example : Reach filtrationSafetyDesc (initSt filtrationSafetyDesc) ∧ (initSt filtrationSafetyDesc).leaf = Filtration.leaf_halt :=
  ⟨Reach.init, rfl⟩

/-- every phase accepts `halt` unconditionally (table regenerated by executing the real machine) -/
def haltAccepted : Bool :=
  (List.range filtrationSafetyDesc.nLeaves).all fun l =>
    l == Filtration.leaf_halt || filtrationSafetyDesc.total.contains (l, Filtration.m_halt)

theorem filtration_halt_accepted_everywhere : haltAccepted = true := by decide +kernel

theorem filtration_halt_lands_in_halt :
    allSucc filtrationSafetyDesc filtrationSafetyReach (.plain Filtration.m_halt)
      (fun _ s' => s'.leaf == Filtration.leaf_halt) = true :=
  -- a fact of the row table (`halt` has a row into `halt` from every phase), not of the programs
  allSucc_leaf (Q := (· == Filtration.leaf_halt)) filtrationSafetyDesc.nLeaves (by decide +kernel) (by decide +kernel)
    (by decide +kernel)

/-! ## slaves: the output is a function of the phase -/
def heatingOutOK (s : St) : Bool :=
  !s.bad && (s.v Heating.v_dev_heating == 0 || s.leaf == Heating.leaf_heating || s.leaf == Heating.leaf_forcing)

theorem heating_off_unless_heating_or_forcing : ∀ s, Reach heatingSafetyDesc s → heatingOutOK s = true :=
  invariant_of_closed _ _ _ Cert.heatingSafety_closed (by decide +kernel)

def swimOutOK (s : St) : Bool := !s.bad && (s.leaf != Swim.leaf_halt || s.v Swim.v_dev_swim == 0)

theorem swim_off_when_halted : ∀ s, Reach swimSafetyDesc s → swimOutOK s = true :=
  invariant_of_closed _ _ _ Cert.swimSafety_closed (by decide +kernel)

/-- Disinfection in `halt` has told both PWM loops `do_cancel` last (or never started them) -/
def disinfectionOutOK (s : St) : Bool :=
  !s.bad && (s.leaf != Disinfection.leaf_halt ||
    ((s.v Disinfection.v_rq_PWMph == N.do_cancel_ || s.v Disinfection.v_rq_PWMph == 0) &&
     (s.v Disinfection.v_rq_PWMcl == N.do_cancel_ || s.v Disinfection.v_rq_PWMcl == 0)))

theorem disinfection_cancels_pwm_when_halted : ∀ s, Reach disinfectionSafetyDesc s → disinfectionOutOK s = true :=
  invariant_of_closed _ _ _ Cert.disinfectionSafety_closed (by decide +kernel)

/-- PWM: the pump relay is energised only while the loop is armed (a `do_run` carrying the current token is pending) -/
def pwmOutOK (s : St) : Bool := !s.bad && (s.v PWM.v_dev_pump == 0 || s.armed == some PWM.m_do_run)

theorem pwm_on_only_while_armed : ∀ s, Reach pwmSafetyDesc s → pwmOutOK s = true :=
  invariant_of_closed _ _ _ Cert.pwmSafety_closed (by decide +kernel)

def disinfectionSpec : Spec :=
  { D := disinfectionSafetyDesc
    isHaltMsg := fun m => m == .plain Disinfection.m_halt
    isHalt := fun s => s.leaf == Disinfection.leaf_halt
    isStart := fun m => m == .plain Disinfection.m_run }

theorem disinfection_slave_ok : SlaveOK disinfectionSpec :=
  .of_cert Cert.disinfectionSafety_closed (by simp [disinfectionSpec]; decide) (by decide +kernel)

/-- Filtration knows Disinfection halted ∧ its inbox has been served ⇒ Disinfection is in `halt` -/
theorem glue_disinfection {g : GSt} (h : GReach disinfectionSpec g) (hg : g.ghost = true)
    (hs : noMaster g.inbox) : g.x.leaf = Disinfection.leaf_halt :=
  eq_of_beq (halted_when_served disinfectionSpec disinfection_slave_ok h hg hs)

/-- Heating, seen from the comfort side: off-class = not `forcing`; `force` is only ever told by Filtration -/
def heatingForceSpec : Spec :=
  { D := heatingSafetyDesc
    isHaltMsg := fun m => m == .plain Heating.m_halt || m == .plain Heating.m_wait
    isHalt := fun s => s.leaf != Heating.leaf_forcing
    isStart := fun m => m == .plain Heating.m_force }

theorem heating_force_slave_ok : SlaveOK heatingForceSpec :=
  .of_cert Cert.heatingSafety_closed (by simp [heatingForceSpec]; decide) (by decide +kernel)

/-- Heating, seen from the scheduled side: off-class = not `heating`; `heat` is Heating's own request, guarded by a
    synchronous question to Filtration (`filtration_allow_heating`: only while Filtration is in `heating_running`) -/
def heatingHeatSpec : Spec :=
  { D := heatingSafetyDesc
    isHaltMsg := fun m => m == .plain Heating.m_halt || m == .plain Heating.m_wait
    isHalt := fun s => s.leaf != Heating.leaf_heating
    isStart := fun m => m == .plain Heating.m_heat }

theorem heating_heat_slave_ok : SlaveOK heatingHeatSpec :=
  .of_cert Cert.heatingSafety_closed (by simp [heatingHeatSpec]; decide) (by decide +kernel)

/-- Swim: `timed`/`continuous` come from the dispatcher and `wintering` from Filtration; all three are guarded by a
    synchronous question to Filtration (filtration_allow_swim / filtration_is_wintering) -/
def swimSpec : Spec :=
  { D := swimSafetyDesc
    isHaltMsg := fun m => m == .plain Swim.m_halt
    isHalt := fun s => s.leaf == Swim.leaf_halt
    isStart := fun m => m == .plain Swim.m_timed || m == .plain Swim.m_continuous || m == .plain Swim.m_wintering }

theorem swim_slave_ok : SlaveOK swimSpec :=
  .of_cert Cert.swimSafety_closed (by simp [swimSpec]; decide) (by decide +kernel)

theorem glue_swim {g : GSt} (h : GReach swimSpec g) (hg : g.ghost = true) (hs : noMaster g.inbox) :
    g.x.leaf = Swim.leaf_halt :=
  eq_of_beq (halted_when_served swimSpec swim_slave_ok h hg hs)

theorem glue_heating_not_forcing {g : GSt} (h : GReach heatingForceSpec g) (hg : g.ghost = true)
    (hs : noMaster g.inbox) : g.x.leaf ≠ Heating.leaf_forcing :=
  bne_iff_ne.mp (halted_when_served heatingForceSpec heating_force_slave_ok h hg hs)

theorem glue_heating_not_heating {g : GSt} (h : GReach heatingHeatSpec g) (hg : g.ghost = true)
    (hs : noMaster g.inbox) : g.x.leaf ≠ Heating.leaf_heating :=
  bne_iff_ne.mp (halted_when_served heatingHeatSpec heating_heat_slave_ok h hg hs)

/-- PWM (slave of Disinfection): `do_cancel` switches the pump off and disarms the loop; nothing but `do_run` re-arms -/
def pwmSpec : Spec :=
  { D := pwmSafetyDesc
    isHaltMsg := fun m => m == .plain PWM.m_do_cancel
    isHalt := fun s => s.v PWM.v_dev_pump == 0 && s.armed == none
    isStart := fun m => m == .plain PWM.m_do_run }

theorem pwm_slave_ok : SlaveOK pwmSpec :=
  .of_cert Cert.pwmSafety_closed (by simp [pwmSpec]; decide) (by decide +kernel)

theorem glue_pwm {g : GSt} (h : GReach pwmSpec g) (hg : g.ghost = true) (hs : noMaster g.inbox) :
    g.x.v PWM.v_dev_pump = 0 :=
  eq_of_beq (Bool.and_eq_true_iff.mp (halted_when_served pwmSpec pwm_slave_ok h hg hs)).1

/-- non-vacuity of the glue hypotheses: a run in which the master starts X, halts it, X serves its inbox -/
example : ∃ g, GReach disinfectionSpec g ∧ g.ghost = true ∧ noMaster g.inbox :=
  ⟨_, GReach.step (GReach.init false) (GStep.mObserve _ false (by simp [noMaster]) (by decide)), rfl,
    by simp [noMaster]⟩

/-! ## what "off" means on the pins (Model/Devices.lean, exhaustively compared with the real device classes) -/
open Poupool.Devices in
/-- every accepted speed selects exactly its own pin; speed 0 (= `off()`) selects pin 0, on which the pump is wired "stop" -/
theorem pump_speed_one_hot : ∀ v, v < 4 → selected (pumpLevels v) = some v := by decide

open Poupool.Devices in
theorem switch_off_is_high : switchLevel false = true ∧ switchLevel true = false := by decide

end Poupool.C01

/-! ## "They stay that way until a new mode request is accepted"

The messages that take Filtration out of `halt` are mode requests; no program of Filtration sends one of them to itself
(`selfTell`, the translation of `self._proxy.<m>.defer()`; read on the timer view, which keeps the self-messages), no delayed call of one survives the halt (the token rule,
C08), and no other controller tells Filtration one of them (`tell:Filtration.*` tags of the generated name table): once
halted, only a message from outside the controllers – the dispatcher – restarts the system. -/
namespace Poupool.C01
open Poupool.Gen

def selfTells : Stmt → List MsgId
  | .seq a b => selfTells a ++ selfTells b
  | .ite _ t e => selfTells t ++ selfTells e
  | .choose a b => selfTells a ++ selfTells b
  | .forSetting _ _ b => selfTells b
  | .selfTell m => [m]
  | .doRepeat b _ => selfTells b
  | .scope b => selfTells b
  | _ => []

def allSelfTells (D : ActorDesc) : List MsgId :=
  D.callbacks.flatMap selfTells ++ D.methods.flatMap fun mp => selfTells mp.2

def leavesHalt (D : ActorDesc) (haltLeaf : Nat) : List MsgId :=
  ((D.rows.getD haltLeaf []).filter fun r => r.dest != haltLeaf).map (·.trig)

/-- what the other controllers tell Filtration (by name) -/
def toldToFiltration : List String :=
  (names.filter fun n => n.startsWith "tell:Filtration.").map fun n => (n.drop 16).toString

theorem halt_left_only_by_mode_requests :
    ((leavesHalt filtrationSafetyDesc Filtration.leaf_halt).all fun m =>
      !(allSelfTells filtrationTimerDesc).contains m && !toldToFiltration.contains (filtrationMsgs.getD m "?")) = true := by
  decide +kernel

/-- non-vacuity: there are messages that leave halt, and Filtration does tell itself other things -/
example : (leavesHalt filtrationSafetyDesc Filtration.leaf_halt).contains Filtration.m_eco = true ∧
    (allSelfTells filtrationTimerDesc).contains Filtration.m_reload = true := by decide +kernel

end Poupool.C01
